import Caches.Basic
import Caches.Properties.C01
import Caches.Properties.C02
import Caches.Properties.C03
import Caches.Properties.C04
import Caches.Properties.C05
import Caches.Properties.C06
import Caches.Properties.C07
import Caches.Properties.C08
import Caches.Properties.C09
import Caches.Properties.C10
import Caches.Properties.C11
import Caches.Properties.C12
import Caches.Properties.C13
import Caches.Properties.C14
import Caches.Properties.C15
import Caches.Properties.C16
import Caches.Properties.C17
import Caches.Properties.C18
import Caches.Properties.C19
import Caches.Properties.C20
