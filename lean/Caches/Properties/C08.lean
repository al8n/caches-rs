/-
  C08 — TwoQueueCache follows the 2Q policy (recent / frequent / ghost).
  `TwoQSpec` is the policy as the property text states it; on every well-formed cache (all sizes ≥ 1, all quotas
  including 0 and `= size`, all ghost bounds ≥ 1) the model of the code computes exactly that.
-/
import Caches.Lemmas.TwoQ
set_option linter.unusedSectionVars false
namespace C08
open M
variable {κ ν : Type} [DecidableEq κ]

/-- victim rule: recent's LRU if recent is over quota (at quota for a brand-new key), otherwise frequent's,
    falling back to whichever queue is non-empty -/
theorem victim_rule (q : TwoQ κ ν) (rl fl : Nat) (newKey : Bool) :
    q.fromRecent rl fl newKey = true ↔
      rl > 0 ∧ ((if newKey then rl ≥ q.rs else rl > q.rs) ∨ fl = 0) := by
  unfold TwoQ.fromRecent; cases newKey <;> simp

theorem fromRecent_eq_spec (q : TwoQ κ ν) (b : Bool) :
    q.fromRecent q.recent.items.length q.frequent.items.length b = TwoQSpec.fromRecent q.recent.items q.frequent.items q.rs b := rfl

/-- constructor: quota and ghost bound are the supplied floors; a zero ghost bound or bad ratio is rejected -/
theorem ctor_spec (size : Nat) (rr gr : RatioClass) (rs es : Nat) (q : TwoQ κ ν)
    (h : TwoQ.new size rr gr rs es = .ok q) :
    q.size = size ∧ q.rs = rs ∧ q.ghost.cap = es ∧ 0 < size ∧ 0 < es ∧ rr.inUnit = true ∧ gr.inUnit = true ∧
    q.recent.cap = size ∧ q.frequent.cap = size := by
  obtain ⟨rfl, hs, he, h1, h2⟩ := TwoQ.new_ok h
  exact ⟨rfl, rfl, rfl, hs, he, h1, h2, rfl, rfl⟩

theorem put_eq_spec (q : TwoQ κ ν) (k : κ) (v : ν) (h : q.Inv) :
    ∃ r q' d, q.put k v = .ok (r, q', d) ∧
      (q'.recent.items, q'.frequent.items, q'.ghost.items, r) =
        TwoQSpec.put q.recent.items q.frequent.items q.ghost.items q.size q.rs q.ghost.cap k v :=
  ⟨_, _, _, TwoQ.put_spec h k v, rfl⟩

/-- **`get` / `get_mut` = the policy**: a second access moves the entry to the frequent queue -/
theorem get_eq_spec (q : TwoQ κ ν) (k : κ) (w : Option ν) (h : q.Inv) :
    ∃ r q', q.getMut k w = .ok (r, q') ∧
      (q'.recent.items, q'.frequent.items, q'.ghost.items, r) = TwoQSpec.get q.recent.items q.frequent.items q.ghost.items k w :=
  ⟨_, _, TwoQ.getMut_spec h k w, rfl⟩

/-- a put on a ghost key revives it directly into the frequent queue with `Update(ghost value)`-style result -/
theorem ghost_revives_frequent (q : TwoQ κ ν) (k : κ) (v old : ν) (h : q.Inv)
    (hf : find k q.frequent.items = none) (hr : find k q.recent.items = none) (hg : find k q.ghost.items = some old) :
    ∃ r q' d, q.put k v = .ok (r, q', d) ∧ q'.frequent.items.head? = some (k, v) ∧ k ∉ keys q'.ghost.items ∧
      (r = .update old ∨ ∃ ek ev, r = .evictedAndUpdate ek ev old) := by
  obtain ⟨vic, ev, hres, -, -, hh, -⟩ := TwoQSpec.put_flow h.wf q.rs k v
  have hfk : find k (q.recent.items ++ q.frequent.items ++ q.ghost.items) = some old := by simp [find_append, hr, hf, hg]
  simp only [hfk, Option.isSome_some, if_true] at hh hres
  exact ⟨_, _, _, TwoQ.put_spec h k v, hh, (h.step (.put k v)).dfg k (mem_keys_of_mem (List.mem_of_mem_head? hh)),
    by cases ev <;> simp [hres, PutResult.of]⟩

/-- non-vacuity: at quota, a brand-new key takes its victim from recent, a ghost hit from frequent -/
example : TwoQSpec.fromRecent [(1, 1), (2, 2)] [(3, 3)] 2 true = true ∧
          TwoQSpec.fromRecent [(1, 1), (2, 2)] [(3, (3 : Nat))] 2 false = false := by decide

/-- non-vacuity of `Inv`: a 2Q state with recent over quota and a ghost -/
example : ({ size := 3, rs := 1, recent := ⟨3, [(1, 10), (5, 50)], false⟩, frequent := ⟨3, [(2, 20)], false⟩,
             ghost := ⟨2, [(3, 30)], false⟩ } : TwoQ Nat Nat).Inv := by
  constructor <;> decide

/-- **`remove` = the policy**: frequent, recent, then the ghost list -/
theorem remove_eq_spec (q : TwoQ κ ν) (k : κ) :
    ((q.remove k).1.recent.items, (q.remove k).1.frequent.items, (q.remove k).1.ghost.items, (q.remove k).2.1) =
      TwoQSpec.remove q.recent.items q.frequent.items q.ghost.items k := by
  obtain ⟨h1, h2⟩ := TwoQ.remove_spec q k
  rw [h1, h2]; rfl

theorem peekMut_eq_spec (q : TwoQ κ ν) (k : κ) (w : Option ν) :
    ((q.peekMut k w).1.recent.items, (q.peekMut k w).1.frequent.items, (q.peekMut k w).1.ghost.items) =
      TwoQSpec.peekMut q.recent.items q.frequent.items q.ghost.items k w := by
  rw [TwoQ.peekMut_spec]; rfl

/-- **every operation = the policy**, on every well-formed cache -/
theorem step_eq_spec (q : TwoQ κ ν) (o : CacheOp κ ν) (h : q.Inv) :
    ∃ q', q.step o = .ok q' ∧
      (q'.recent.items, q'.frequent.items, q'.ghost.items) =
        TwoQSpec.step q.size q.rs q.ghost.cap (q.recent.items, q.frequent.items, q.ghost.items) o :=
  ⟨_, TwoQ.step_spec h o, rfl⟩

/-- **refinement over every history**: from any accepted constructor, any sequence of public operations runs
    without a fault and leaves recent, frequent and ghost holding exactly what the 2Q policy, folded over the same
    sequence from three empty lists, says — entry by entry, in recency order -/
theorem history_eq_spec (size : Nat) (rr gr : RatioClass) (rs es : Nat) (q0 : TwoQ κ ν)
    (hn : TwoQ.new size rr gr rs es = .ok q0) (ops : List (CacheOp κ ν)) :
    ∃ q', runOps TwoQ.step q0 ops = .ok q' ∧
      (q'.recent.items, q'.frequent.items, q'.ghost.items) = ops.foldl (TwoQSpec.step size rs es) ([], [], []) := by
  have h0 := TwoQ.inv_new hn
  obtain ⟨rfl, -⟩ := TwoQ.new_ok hn
  exact ⟨_, (TwoQ.run_spec h0 ops).1, rfl⟩

/-- non-vacuity of the history theorem: first sight, second access, eviction to ghost, ghost revival, removal -/
example : [CacheOp.put 1 10, .put 2 20, .getMut 1 none, .put 3 30, .put 4 40, .put 2 21, .remove 3].foldl
    (TwoQSpec.step 2 1 2) (([], [], []) : AL Nat Nat × AL Nat Nat × AL Nat Nat) = ([(4, 40)], [(2, 21)], [(1, 10)]) := by decide
end C08
