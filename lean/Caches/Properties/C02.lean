/-
  C02 — coherence: a cache may forget an entry but never returns a wrong one.

  The *truth* `κ → Option ν` is a ghost map updated only from what each operation declares (`Decl`): the entry it
  stores (`put`, a write through a returned `&mut V`) and the keys whose old value it invalidates (the written key,
  a removed key, every key on `purge`). `coherent_*`: for every accepted configuration and **every history** of
  operations, every lookup answer of the final state is the true value (so a key whose truth is `none` — never put,
  or removed/purged and not put again — is never reported resident). `*_lookup_agree`: all lookup flavours agree (RawLRU, SLRU, 2Q, ARC).
  `only_put_revives`: a key that is not resident can become resident only through an operation that stores it.
  Ghost entries of 2Q/ARC are not resident and are not looked at by any lookup.
-/
import Caches.Lemmas.RawStep
import Caches.Lemmas.TwoQ
import Caches.Lemmas.Arc
import Caches.Lemmas.WTinyLfu
set_option linter.unusedSectionVars false
namespace C02
open M M.RawLru
variable {κ ν : Type} [DecidableEq κ]

/-- `get`, `get_mut`, `peek`, `peek_mut`, `contains` agree on residency and on the value -/
theorem rawlru_lookup_agree (c : RawLru κ ν) (k : κ) :
    (c.get k).2 = c.peek k ∧ (c.getMut k none).2 = c.peek k ∧ (c.peekMut k none).2 = c.peek k ∧
    c.contains k = (c.peek k).isSome := by
  unfold RawLru.get RawLru.getMut RawLru.peekMut RawLru.peek RawLru.contains
  cases find k c.items <;> simp

/-- after `put k v` every lookup of `k` sees `v` (capacity ≥ 1) -/
theorem rawlru_put_then_peek (c c' : RawLru κ ν) (k : κ) (v : ν) (r : PutResult κ ν) (e : Eff κ ν)
    (h0 : c.cap ≠ 0) (hp : c.put k v = .ok (c', r, e)) : c'.peek k = some v := by
  obtain ⟨_, _, _, hk⟩ := put_flow hp
  exact hk h0

/-- `remove` hands the stored value back and the key is gone afterwards: a second remove finds nothing -/
theorem rawlru_remove_once (c : RawLru κ ν) (k : κ) (h : c.Inv) :
    (c.remove k).2.1 = c.peek k ∧ ((c.remove k).1.remove k).2.1 = none := by
  refine ⟨by unfold RawLru.remove RawLru.peek; cases find k c.items <;> rfl, ?_⟩
  rw [remove_fst]; unfold RawLru.remove
  simp only [find_erase_self k c.items h.nd]

/-- `put k v` never changes what is stored under another key `x`, except by evicting it -/
theorem rawlru_put_other (c c' : RawLru κ ν) (k x : κ) (v : ν) (r : PutResult κ ν) (e : Eff κ ν) (h : c.Inv)
    (hx : x ≠ k) (hp : c.put k v = .ok (c', r, e)) : c'.peek x = c.peek x ∨ c'.peek x = none := by
  obtain ⟨ev, -, hf, -⟩ := put_flow hp
  unfold RawLru.peek
  cases hx' : find x c'.items with
  | none => exact .inr rfl
  | some w =>
    -- an entry found afterwards under another key was there before
    rcases hf.mem h.nd (find_mem hx') with h1 | h1
    · exact absurd (by simpa using h1) (fun hc : x = k ∧ w = v => hx hc.1)
    · exact .inl ((find_iff_mem x w _ h.nd).2 h1.1).symm

/-- the truth after a `put k v` is `v`; after invalidating `k` it is `none`; other keys are untouched -/
theorem truth_update (t : κ → Option ν) (k x : κ) (v : ν) :
    (keyDecl k (some (k, v))).upd t k = some v ∧ (keyDecl k (none : Option (κ × ν))).upd t k = none ∧
    (x ≠ k → (keyDecl k (some (k, v))).upd t x = t x ∧ (keyDecl k (none : Option (κ × ν))).upd t x = t x) := by
  refine ⟨by simp [Decl.upd, keyDecl], by simp [Decl.upd, keyDecl], fun hx => ⟨by simp [Decl.upd, keyDecl, hx], by simp [Decl.upd, keyDecl, hx]⟩⟩

/-- a key that is not held can only become held by an operation that stores it -/
theorem only_put_revives (d : Decl κ ν) (ents ents' : AL κ ν) (ho : Owes d ents ents') (k : κ)
    (hk : k ∉ keys ents) (hw : ∀ v, d.wr ≠ some (k, v)) : k ∉ keys ents' := by
  intro hc
  obtain ⟨e, he, rfl⟩ := List.mem_map.1 hc
  rcases ho.from_ e he with h1 | h1
  · exact hk (mem_keys_of_mem h1)
  · exact hw e.2 h1

/-- RawLRU, every history from any constructed cache: each `peek` answer is the true value -/
theorem coherent_rawlru (cap : Nat) (cb : Bool) (c0 : RawLru κ ν) (hc : RawLru.new cap cb = some c0)
    (ops : List (RawOp κ ν)) :
    ∃ c t, runTruth RawLru.step RawLru.decl c0 (fun _ => none) ops = .ok (c, t) ∧ runOps RawLru.step c0 ops = .ok c ∧
      ∀ k v, c.peek k = some v → t k = some v := by
  have hi := RawLru.inv_new hc
  have h0 : c0.items = [] := by rw [(RawLru.new_ok hc).1]
  obtain ⟨c, t, hr, hr2, _, hcoh⟩ := coherent_history RawLru.step RawLru.decl RawLru.Inv (fun c => c.items)
    (fun s o hs => let ⟨s', h1, h2, _, ho⟩ := RawLru.step_spec s o hs; ⟨s', h1, h2, ho⟩)
    ops c0 (fun _ => none) hi (h0 ▸ coh_nil _)
  exact ⟨c, t, hr, hr2, fun k v hp => hcoh k v (find_mem hp)⟩

theorem coherent_slru (p q : Nat) (s0 : Slru κ ν) (hc : Slru.new p q = some s0) (ops : List (SlruOp κ ν)) :
    ∃ s t, runTruth Slru.step Slru.decl s0 (fun _ => none) ops = .ok (s, t) ∧ runOps Slru.step s0 ops = .ok s ∧
      ∀ k v, s.peek k = some v → t k = some v := by
  have hi := Slru.inv_new hc
  have h0 : s0.ents = [] := by rw [(Slru.new_ok hc).1]; rfl
  obtain ⟨s, t, hr, hr2, hi, hcoh⟩ := coherent_history Slru.step Slru.decl Slru.Inv Slru.ents
    Slru.step_owes ops s0 (fun _ => none) hi (h0 ▸ coh_nil _)
  exact ⟨s, t, hr, hr2, fun k v hp => hcoh k v (find_mem (Slru.peek_eq hi k ▸ hp))⟩

/-- TwoQueueCache, every history: ghost entries are never reported by a lookup -/
theorem coherent_twoq (size : Nat) (rr gr : RatioClass) (rs es : Nat) (q0 : TwoQ κ ν)
    (hc : TwoQ.new size rr gr rs es = .ok q0) (ops : List (CacheOp κ ν)) :
    ∃ q t, runTruth TwoQ.step TwoQ.decl q0 (fun _ => none) ops = .ok (q, t) ∧ runOps TwoQ.step q0 ops = .ok q ∧
      ∀ k v, q.peek k = some v → t k = some v := by
  have hi := TwoQ.inv_new hc
  have h0 : q0.ents = [] := by obtain ⟨rfl, -⟩ := TwoQ.new_ok hc; rfl
  obtain ⟨q, t, hr, hr2, hi, hcoh⟩ := coherent_history TwoQ.step TwoQ.decl TwoQ.Inv TwoQ.ents
    TwoQ.step_owes ops q0 (fun _ => none) hi (h0 ▸ coh_nil _)
  exact ⟨q, t, hr, hr2, fun k v hp => hcoh k v (find_mem (TwoQ.peek_eq hi k ▸ hp))⟩

theorem coherent_arc (size : Nat) (a0 : Arc κ ν) (hc : Arc.new size = some a0) (ops : List (CacheOp κ ν)) :
    ∃ a t, runTruth Arc.step Arc.decl a0 (fun _ => none) ops = .ok (a, t) ∧ runOps Arc.step a0 ops = .ok a ∧
      ∀ k v, a.peek k = some v → t k = some v := by
  have hi := Arc.inv_new hc
  have h0 : a0.ents = [] := by rw [(Arc.new_ok hc).1]; rfl
  obtain ⟨a, t, hr, hr2, _, hcoh⟩ := coherent_history Arc.step Arc.decl Arc.Inv Arc.ents
    Arc.step_owes ops a0 (fun _ => none) hi (h0 ▸ coh_nil _)
  exact ⟨a, t, hr, hr2, fun k v hp => hcoh k v (find_mem (Arc.peek_eq a k ▸ hp))⟩

/-- WTinyLFUCache, every history from an empty well-formed cache, whatever the key hasher and the estimator say -/
theorem coherent_wtinylfu (kh : κ → UInt64) (c0 : WTinyLfu κ ν) (hi : c0.Inv) (h0 : c0.ents = [])
    (ops : List (CacheOp κ ν)) :
    ∃ c t, runTruth (WTinyLfu.step kh) WTinyLfu.decl c0 (fun _ => none) ops = .ok (c, t) ∧
      runOps (WTinyLfu.step kh) c0 ops = .ok c ∧ ∀ k v, c.peek k = some v → t k = some v := by
  obtain ⟨c, t, hr, hr2, hi, hcoh⟩ := coherent_history (WTinyLfu.step kh) WTinyLfu.decl WTinyLfu.Inv WTinyLfu.ents
    (WTinyLfu.step_owes kh) ops c0 (fun _ => none) hi (h0 ▸ coh_nil _)
  exact ⟨c, t, hr, hr2, fun k v hp => hcoh k v (find_mem (WTinyLfu.peek_eq hi k ▸ hp))⟩

theorem slru_lookup_agree (s : Slru κ ν) (k : κ) (w : Option ν) (h : s.Inv) :
    (s.peekMut k w).2 = s.peek k ∧ s.contains k = (s.peek k).isSome ∧
    (∀ r s', s.getMut k w = .ok (r, s') → r = s.peek k) := by
  refine ⟨?_, ?_, ?_⟩
  · unfold Slru.peekMut Slru.peek RawLru.peekMut RawLru.peek
    cases find k s.prot.items <;> cases find k s.prob.items <;> cases w <;> rfl
  · unfold Slru.contains Slru.peek RawLru.contains RawLru.peek
    cases find k s.prot.items <;> rfl
  · intro r s' hg
    cases (Slru.getMut_spec h k w).symm.trans hg
    rw [Slru.peek_eq h]; exact (SlruSpec.get_flow h.wf k w).1

theorem twoq_lookup_agree (q : TwoQ κ ν) (k : κ) (w : Option ν) (h : q.Inv) :
    (q.peekMut k w).2 = q.peek k ∧ q.contains k = (q.peek k).isSome ∧
    (∀ r q', q.getMut k w = .ok (r, q') → r = q.peek k) := by
  refine ⟨?_, ?_, ?_⟩
  · unfold TwoQ.peekMut TwoQ.peek RawLru.peekMut RawLru.peek
    cases find k q.frequent.items <;> cases find k q.recent.items <;> cases w <;> rfl
  · unfold TwoQ.contains TwoQ.peek RawLru.contains RawLru.peek
    cases find k q.frequent.items <;> rfl
  · intro r q' hg
    cases (TwoQ.getMut_spec h k w).symm.trans hg
    rw [TwoQ.peek_eq h]; exact (TwoQSpec.get_flow h.wf k w).1

theorem arc_lookup_agree (a : Arc κ ν) (k : κ) (w : Option ν) (h : a.Inv) :
    (a.peekMut k w).2 = a.peek k ∧ a.contains k = (a.peek k).isSome ∧
    (∀ r a' d, a.getMut k w = .ok (r, a', d) → r = a.peek k) := by
  refine ⟨?_, ?_, ?_⟩
  · unfold Arc.peekMut Arc.peek RawLru.peekMut RawLru.peek
    cases find k a.recent.items <;> cases find k a.frequent.items <;> cases w <;> rfl
  · unfold Arc.contains Arc.peek RawLru.contains RawLru.peek
    cases find k a.recent.items <;> rfl
  · intro r a' d hg
    obtain ⟨d0, hg0⟩ := Arc.getMut_spec a a.lists h k w
    obtain ⟨rfl, -⟩ := Prod.mk.inj (Except.ok.inj (hg.symm.trans hg0))
    rw [Arc.peek_eq]; exact (ArcSpec.get_flow a.lists k w).1

/-- SegmentedCache: `remove` returns the resident value if there is one; that the key is not resident afterwards is
    `removed_not_resident`, for any step that pays what it `Owes` -/
theorem slru_remove_once (s : Slru κ ν) (k : κ) (h : s.Inv) :
    (s.peek k).isSome → (s.remove k).2.1 = s.peek k := fun _ => by
  rw [(Slru.remove_spec s k).2, SlruSpec.remove_eq h.wf.nd, Slru.peek_eq h]; rfl

theorem removed_not_resident (d : Decl κ ν) (ents ents' : AL κ ν) (ho : Owes d ents ents') (k : κ)
    (hk : d.kills k = true) (hw : ∀ v, d.wr ≠ some (k, v)) : k ∉ keys ents' := by
  intro hc
  obtain ⟨e, he, rfl⟩ := List.mem_map.1 hc
  exact hw e.2 (ho.fresh e he hk)

/-- non-vacuity: a concrete history on a 2-entry RawLRU; the final truth of key 1 is its rewritten value -/
example : (match runTruth RawLru.step RawLru.decl (⟨2, [], false⟩ : RawLru Nat Nat) (fun _ => none)
             [.put 1 10, .put 2 20, .getMut 1 (some 11), .put 3 30] with
           | .ok (c, t) => (c.items, t 1, t 2, t 3) | .error _ => ([], none, none, none))
          = ([(3, 30), (1, 11)], some 11, some 20, some 30) := by decide
end C02
