/- C20 — SampledLFU cost accounting is exact.
   Costs are mathematical integers (`Int`); `i64` overflow is outside the model. -/
import Caches.Lemmas.Sampled
namespace C20
open M M.Sampled

/-- `room_left(c) = max_cost − Σ costs − c` in every state satisfying the invariant -/
theorem roomLeft_exact (s : Sampled) (c : Int) (hi : s.Inv) : s.roomLeft c = s.maxCost - total s.costs - c := by
  unfold Sampled.roomLeft; rw [hi.used_eq]; omega

/-- `update` / `remove` report exactly whether the key was tracked (and its recorded cost) -/
theorem update_reports (s : Sampled) (h : UInt64) (c : Int) : (s.update h c).2 = (find h s.costs).isSome := by
  unfold Sampled.update; cases find h s.costs <;> rfl
theorem remove_reports (s : Sampled) (h : UInt64) : (s.remove h).2 = find h s.costs := by
  unfold Sampled.remove; cases find h s.costs <;> rfl
theorem remove_then_untracked (s : Sampled) (h : UInt64) (hi : s.Inv) : find h (s.remove h).1.costs = none := by
  unfold Sampled.remove
  cases hf : find h s.costs with
  | none => exact hf
  | some c => exact find_erase_self h _ hi.nd

inductive Op | inc (h : UInt64) (c : Int) | upd (h : UInt64) (c : Int) | rem (h : UInt64) | clear | setMax (mc : Int)

def step (s : Sampled) : Op → Sampled
  | .inc h c => s.increment h c
  | .upd h c => (s.update h c).1
  | .rem h => (s.remove h).1
  | .clear => s.clear
  | .setMax mc => s.updateMaxCost mc

theorem inv_step (s : Sampled) (o : Op) (hi : s.Inv) : (step s o).Inv := by
  cases o
  · exact inv_increment s _ _ hi
  · exact inv_update s _ _ hi
  · exact inv_remove s _ hi
  · exact inv_clear s
  · exact inv_updateMaxCost s _ hi

/-- every reachable state: whatever mix of operations preceded, the accounting is exact -/
theorem reach_inv (mc : Int) (n : Nat) (ops : List Op) : (ops.foldl step (Sampled.new mc n)).Inv := by
  suffices ∀ s : Sampled, s.Inv → (ops.foldl step s).Inv from this _ (inv_new mc n)
  induction ops with
  | nil => intro s h; exact h
  | cons o t ih => intro s h; exact ih _ (inv_step s o h)

theorem roomLeft_exact_reachable (mc : Int) (n : Nat) (ops : List Op) (c : Int) :
    let s := ops.foldl step (Sampled.new mc n)
    s.roomLeft c = s.maxCost - total s.costs - c :=
  roomLeft_exact _ c (reach_inv mc n ops)

/-- `fill_sample`: input first, then only pairs of the enumeration `order`, until the sample size is reached -/
theorem fillLoop_spec (samples : Nat) (order pairs : List (UInt64 × Int)) (h : pairs.length < samples) :
    Sampled.fillLoop samples order pairs = pairs ++ order.take (samples - pairs.length) := by
  induction order generalizing pairs with
  | nil => simp [Sampled.fillLoop]
  | cons e t ih =>
    unfold Sampled.fillLoop
    simp only [List.length_append, List.length_cons, List.length_nil]
    by_cases hfull : pairs.length + 1 ≥ samples
    · have : samples - pairs.length = 1 := by omega
      simp [hfull, this]
    · simp only [hfull, if_false]
      rw [ih (pairs ++ [e]) (by simp; omega)]
      have : samples - pairs.length = (samples - (pairs ++ [e]).length) + 1 := by simp; omega
      rw [this, List.take_succ_cons]; simp

theorem fillSample_spec (s : Sampled) (order pairs : List (UInt64 × Int)) :
    s.fillSample order pairs =
      if pairs.length ≥ s.samples then pairs else pairs ++ order.take (s.samples - pairs.length) := by
  unfold Sampled.fillSample
  by_cases h : pairs.length ≥ s.samples
  · simp [h]
  · simp only [h, if_false]; exact fillLoop_spec _ _ _ (by omega)

/-- appended pairs are genuinely tracked whenever the enumeration enumerates `costs` -/
theorem fillSample_tracked (s : Sampled) (order pairs : List (UInt64 × Int)) (ho : ∀ p ∈ order, p ∈ s.costs)
    (p : UInt64 × Int) (hp : p ∈ s.fillSample order pairs) : p ∈ pairs ∨ p ∈ s.costs := by
  rw [fillSample_spec] at hp
  split at hp
  · exact Or.inl hp
  · rcases List.mem_append.1 hp with h | h
    · exact Or.inl h
    · exact Or.inr (ho _ (List.mem_of_mem_take h))

/-- `fill_sample` returns exactly as many pairs as the sample size allows: the input untouched when it is already
    full, otherwise `min samples (input + enumerated)` — it never stops short while tracked pairs remain -/
theorem fillSample_length (s : Sampled) (order pairs : List (UInt64 × Int)) :
    (s.fillSample order pairs).length =
      if pairs.length ≥ s.samples then pairs.length else min s.samples (pairs.length + order.length) := by
  rw [fillSample_spec]
  split
  · rfl
  · simp only [List.length_append, List.length_take]; omega

/-- `fill_sample` returns its input first, unchanged -/
theorem fillSample_prefix (s : Sampled) (order pairs : List (UInt64 × Int)) :
    pairs <+: s.fillSample order pairs := by
  rw [fillSample_spec]
  split
  · exact List.prefix_refl _
  · exact List.prefix_append _ _

/-- nothing is appended twice when the enumeration has no repetition -/
theorem fillSample_appended_nodup (s : Sampled) (order pairs : List (UInt64 × Int)) (hn : order.Nodup) :
    ((s.fillSample order pairs).drop pairs.length).Nodup := by
  rw [fillSample_spec]
  split
  · simp
  · simp only [List.drop_left]
    exact hn.sublist (List.take_sublist _ _)

example : (step (step (Sampled.new 100 5) (.inc 1 5)) (.inc 1 5)).roomLeft 0 = 95 := by decide
end C20
