/-
  C12 — PutResult tells the truth about what a put did.

  `PutTruth ret ret' k v r` (Lemmas/Flow.lean) is the claim a `PutResult` makes about the retained entries before
  and after: `Put` — key not retained, nothing left; `Update old` — key retained with `old`, only its entry changed;
  `Evicted ek ev` — key not retained, exactly `(ek, ev)` left; `EvictedAndUpdate` — both.
  Retained = resident ∪ ghost (2Q, ARC). The theorems hold for every well-formed state, hence (C01/C05 reachability)
  after every history. ARC never reports an eviction; what may leave silently is characterised in `arc_put_claim`.
-/
import Caches.Lemmas.WTinyLfu
import Caches.Lemmas.TwoQ
import Caches.Properties.C09
import Caches.Lemmas.RawStep
set_option linter.unusedSectionVars false
namespace C12
open M M.RawLru
variable {κ ν : Type} [DecidableEq κ]

/-! `PutResult` itself: the hand-written `PartialEq`/`Clone` mirrored branch by branch -/
/-- with lawful payload equality, two results are `==` exactly when they are the same variant with equal payloads -/
theorem peq_iff_eq [DecidableEq ν] (a b : PutResult κ ν) :
    PutResult.peq (fun x y => decide (x = y)) (fun x y => decide (x = y)) a b = true ↔ a = b := by
  cases a <;> cases b <;> simp [PutResult.peq] <;> grind

theorem pclone_eq (a : PutResult κ ν) : PutResult.pclone id id a = a := by cases a <;> rfl

/-- RawLRU (capacity ≥ 1): the result is true of the list before and after -/
theorem rawlru_put_claim (c : RawLru κ ν) (k : κ) (v : ν) (h : c.Inv) (h0 : c.cap ≠ 0) :
    ∃ c' r e, c.put k v = .ok (c', r, e) ∧ PutTruth c.items c'.items k v r ∧ c'.peek k = some v := by
  obtain ⟨c', r, e, hp, _⟩ := put_total_inv c k v h
  obtain ⟨ev, rfl, hf, hk⟩ := put_flow hp
  exact ⟨c', _, e, hp, PutTruth.of_flow h.nd hf (find_mem (hk h0)), hk h0⟩

theorem slru_put_claim (s : Slru κ ν) (k : κ) (v : ν) (h : s.Inv) :
    ∃ r s' d, s.put k v = .ok (r, s', d) ∧ PutTruth s.ents s'.ents k v r ∧ (k, v) ∈ s'.ents := by
  obtain ⟨ev, hr, hf, hin, _⟩ := SlruSpec.put_flow h.wf k v
  exact ⟨_, _, _, Slru.put_spec h k v, hr ▸ PutTruth.of_flow h.wf.nd hf hin, hin⟩

/-- TwoQueueCache: retained = recent ++ frequent ++ ghost; an entry pushed out of the ghost list is the one reported;
    the key ends up resident (recent or frequent), never left as a ghost -/
theorem twoq_put_claim (q : TwoQ κ ν) (k : κ) (v : ν) (h : q.Inv) :
    ∃ r q' d, q.put k v = .ok (r, q', d) ∧
      PutTruth (q.recent.items ++ (q.frequent.items ++ q.ghost.items))
               (q'.recent.items ++ (q'.frequent.items ++ q'.ghost.items)) k v r ∧ (k, v) ∈ q'.ents :=
  ⟨_, _, _, TwoQ.put_spec h k v, TwoQSpec.put_truth h.wf q.rs k v⟩

/-- WTinyLFUCache: retained = window ++ probationary ++ protected; a candidate rejected by the admission gate is
    reported as `Evicted` -/
theorem wtinylfu_put_claim (c : WTinyLfu κ ν) (kh : κ → UInt64) (k : κ) (v : ν) (h : c.Inv) :
    ∃ r c' d, c.put kh k v = .ok (r, c', d) ∧ PutTruth c.ents c'.ents k v r ∧ (k, v) ∈ c'.ents := by
  have wf := h.wf
  obtain ⟨ev, hr, hf, hin, _⟩ := WtSpec.put_flow wf (WtSpec.verdict kh c.est) k v
  exact ⟨_, _, _, WTinyLfu.put_spec kh h k v, hr ▸ PutTruth.of_flow wf.nd hf hin, hin⟩

/-- AdaptiveCache: `put` reports `Put` exactly for a key retained nowhere and `Update old` exactly for a key retained
    (resident or ghost) with value `old`; nothing appears from nowhere; the key ends up resident; and the only entries
    that leave without being named are ghost-list entries — residents other than the least-recent of T1/T2 stay resident -/
theorem arc_put_claim (a : Arc κ ν) (k : κ) (v : ν) (h : a.Inv) :
    ∃ r a' d, a.put k v = .ok (r, a', d) ∧ ArcSpec.ArcTruth (C09.view a) (C09.view a') k v r := by
  obtain ⟨d, hd⟩ := Arc.put_spec a (C09.view a) h k v
  exact ⟨_, _, d, hd, ArcSpec.put_truth (Arc.Inv.wf (s := C09.view a) h) k v⟩

/-- ARC never reports an eviction -/
theorem arc_never_evicted (a : Arc κ ν) (k : κ) (v : ν) (h : a.Inv) (r : PutResult κ ν) (a' : Arc κ ν) (d : List (Obj κ ν))
    (hp : a.put k v = .ok (r, a', d)) : r = .put ∨ ∃ old, r = .update old := by
  obtain ⟨r0, a0, d0, hp0, ht⟩ := arc_put_claim a k v h
  rw [hp] at hp0; injection hp0 with hp0; injection hp0 with hr _; subst hr
  rcases ht.result with ⟨h1, _⟩ | ⟨old, h1, _⟩
  · exact Or.inl h1
  · exact Or.inr ⟨old, h1⟩

/-! ## every history: the claim holds for the next `put` at every reachable state -/

theorem slru_claim_every_history (p q : Nat) (s0 : Slru κ ν) (hc : Slru.new p q = some s0) (ops : List (SlruOp κ ν)) :
    ∃ s, runOps Slru.step s0 ops = .ok s ∧
      ∀ k v, ∃ r s' d, s.put k v = .ok (r, s', d) ∧ PutTruth s.ents s'.ents k v r ∧ (k, v) ∈ s'.ents := by
  obtain ⟨hr, hi⟩ := Slru.run_spec (Slru.inv_new hc) ops
  exact ⟨_, hr, fun k v => slru_put_claim _ k v hi⟩

theorem twoq_claim_every_history (size : Nat) (rr gr : RatioClass) (rs es : Nat) (q0 : TwoQ κ ν)
    (hc : TwoQ.new size rr gr rs es = .ok q0) (ops : List (CacheOp κ ν)) :
    ∃ q, runOps TwoQ.step q0 ops = .ok q ∧
      ∀ k v, ∃ r q' d, q.put k v = .ok (r, q', d) ∧
        PutTruth (q.recent.items ++ (q.frequent.items ++ q.ghost.items))
                 (q'.recent.items ++ (q'.frequent.items ++ q'.ghost.items)) k v r ∧ (k, v) ∈ q'.ents := by
  obtain ⟨hr, hi⟩ := TwoQ.run_spec (TwoQ.inv_new hc) ops
  exact ⟨_, hr, fun k v => twoq_put_claim _ k v hi⟩

theorem arc_claim_every_history (size : Nat) (a0 : Arc κ ν) (hc : Arc.new size = some a0) (ops : List (CacheOp κ ν)) :
    ∃ a, runOps Arc.step a0 ops = .ok a ∧
      ∀ k v, ∃ r a' d, a.put k v = .ok (r, a', d) ∧ ArcSpec.ArcTruth (C09.view a) (C09.view a') k v r := by
  obtain ⟨hr, hi⟩ := Arc.run_spec a0 a0.lists (Arc.inv_new hc) ops
  exact ⟨_, hr, fun k v => arc_put_claim _ k v hi⟩

theorem wtinylfu_claim_every_history (kh : κ → UInt64) (c0 : WTinyLfu κ ν) (h0 : c0.Inv) (ops : List (CacheOp κ ν)) :
    ∃ c, runOps (WTinyLfu.step kh) c0 ops = .ok c ∧
      ∀ k v, ∃ r c' d, c.put kh k v = .ok (r, c', d) ∧ PutTruth c.ents c'.ents k v r ∧ (k, v) ∈ c'.ents := by
  obtain ⟨hr, hi⟩ := WTinyLfu.run_spec kh h0 ops
  exact ⟨_, hr, fun k v => wtinylfu_put_claim _ kh k v hi⟩

theorem rawlru_claim_every_history (cap : Nat) (cb : Bool) (c0 : RawLru κ ν) (hc : RawLru.new cap cb = some c0)
    (ops : List (RawOp κ ν)) :
    ∃ c, runOps RawLru.step c0 ops = .ok c ∧
      (c.cap ≠ 0 → ∀ k v, ∃ c' r e, c.put k v = .ok (c', r, e) ∧ PutTruth c.items c'.items k v r ∧ c'.peek k = some v) ∧
      (c.cap = 0 → ∀ k v, c.put k v = .ok (c, .evicted k v, {})) := by
  obtain ⟨c, hr, hi⟩ := runOps_inv RawLru.step RawLru.Inv RawLru.step_inv ops c0 (RawLru.inv_new hc)
  exact ⟨c, hr, fun h0 k v => rawlru_put_claim c k v hi h0, fun h0 k v => (put_zero c k v hi h0).2⟩

/-- non-vacuity: a full 2Q whose ghost list overflows reports the ghost that was pushed out -/
example : (TwoQSpec.put [(3, 30)] [(2, 20)] [(1, 10)] 2 1 1 4 (40 : Nat)).2.2.2 = PutResult.evicted 1 10 := by decide
end C12
