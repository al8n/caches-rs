/-
  C10 — WTinyLFUCache: window → TinyLFU admission filter → segmented main cache.
  `WtSpec` is the policy as the property text states it; on every well-formed cache (all capacity triples ≥ 1, every
  well-formed estimator, every key hasher `kh`) the model of the code computes exactly that, with the verdict being the
  estimator's own `lt` at decision time.
-/
import Caches.Lemmas.WTinyLfu
set_option linter.unusedSectionVars false
namespace C10
open M
variable {κ ν : Type} [DecidableEq κ]

def view (c : WTinyLfu κ ν) : WtSpec.St κ ν := { w := c.window.items, p := c.main.prob.items, q := c.main.prot.items }

/-- the estimator's verdict as a boolean (total on well-formed estimators, see `TinyLfu.compare_total`) -/
def ltOf (c : WTinyLfu κ ν) (kh : κ → UInt64) (a b : κ) : Bool :=
  match c.est.lt (kh a) (kh b) with
  | .ok r => r
  | .error _ => false

/-- the verdict is exactly "estimate of the candidate < estimate of the victim" -/
theorem ltOf_spec (c : WTinyLfu κ ν) (kh : κ → UInt64) (a b : κ) (h : c.est.WF) :
    ∃ ea eb, c.est.estimate (kh a) = .ok ea ∧ c.est.estimate (kh b) = .ok eb ∧ ltOf c kh a b = decide (ea < eb) := by
  obtain ⟨ea, eb, ha, hb, hc⟩ := TinyLfu.compare_spec c.est h .lt (kh a) (kh b)
  refine ⟨ea, eb, ha, hb, ?_⟩
  unfold ltOf TinyLfu.lt
  rw [hc]; rfl

theorem put_eq_spec (c : WTinyLfu κ ν) (kh : κ → UInt64) (k : κ) (v : ν) (h : c.Inv) :
    ∃ r c' d, c.put kh k v = .ok (r, c', d) ∧
      (view c', r) = WtSpec.put (view c) c.window.cap c.main.prob.cap c.main.prot.cap (ltOf c kh) k v ∧ c'.est = c.est :=
  ⟨_, _, _, WTinyLfu.put_spec kh h k v, rfl, rfl⟩

/-- **`get` / `get_mut` = the policy**, and every one of them (hit or miss) records exactly one access for the key:
    the estimator becomes `increment (tryReset est) (hash k)` -/
theorem get_eq_spec (c : WTinyLfu κ ν) (kh : κ → UInt64) (k : κ) (w : Option ν) (h : c.Inv) :
    ∃ r c' est', c.getMut kh k w = .ok (r, c') ∧ c.est.tryReset.increment (kh k) = .ok est' ∧ c'.est = est' ∧
      (view c', r) = WtSpec.get (view c) c.main.prot.cap k w :=
  ⟨_, _, _, WTinyLfu.getMut_spec kh h k w, (WTinyLfu.estStep_getMut kh h.ei k w).1, rfl, rfl⟩

/-- `purge` clears the estimator -/
theorem purge_clears (c c' : WTinyLfu κ ν) (d : List (Obj κ ν)) (h : c.purge = .ok (c', d)) : c'.est = c.est.clear := by
  obtain ⟨d', hd⟩ := WTinyLfu.purge_spec c
  cases hd.symm.trans h; rfl

/-- peeks and `contains` do not touch the estimator (they return no state at all, or a state with the same estimator) -/
theorem peekMut_keeps_estimator (c : WTinyLfu κ ν) (k : κ) (w : Option ν) : (c.peekMut k w).1.est = c.est := by
  rw [WTinyLfu.peekMut_spec]; rfl

/-- `put`, `remove` leave the estimator alone as well (only `get`/`get_mut` record, only `purge` clears) -/
theorem remove_keeps_estimator (c : WTinyLfu κ ν) (k : κ) : (c.remove k).1.est = c.est := by
  rw [(WTinyLfu.remove_spec c k).1]; rfl

/-- non-vacuity: main full, candidate strictly less frequent than the victim ⇒ the candidate is handed back -/
example : WtSpec.put ⟨[(3, 30)], [(2, 20)], [(1, 10)]⟩ 1 1 1 (fun a b => a == 3 && b == 2) 4 (40 : Nat) =
    (⟨[(4, 40)], [(2, 20)], [(1, 10)]⟩, .evicted 3 30) := by rfl

theorem remove_eq_spec (c : WTinyLfu κ ν) (k : κ) :
    (view (c.remove k).1, (c.remove k).2.1) = WtSpec.remove (view c) k := by
  rw [(WTinyLfu.remove_spec c k).1, (WTinyLfu.remove_spec c k).2]; rfl

theorem peekMut_eq_spec (c : WTinyLfu κ ν) (k : κ) (w : Option ν) :
    view (c.peekMut k w).1 = WtSpec.peekMut (view c) k w := by
  rw [WTinyLfu.peekMut_spec]; rfl

/-- **every operation = the policy**, lists and estimator, on every well-formed cache -/
theorem step_eq_spec (kh : κ → UInt64) (c : WTinyLfu κ ν) (o : CacheOp κ ν) (h : c.Inv) :
    ∃ c', WTinyLfu.step kh c o = .ok c' ∧
      (view c', c'.est) = WtSpec.stepE kh c.window.cap c.main.prob.cap c.main.prot.cap (view c, c.est) o :=
  ⟨_, WTinyLfu.step_spec kh h o, rfl⟩

/-- **refinement over every history**: from any well-formed cache (any part sizes, any estimator), any sequence of
    public operations runs without a fault; window, probationary and protected (entry by entry, in recency order)
    and the estimator are exactly what the W-TinyLFU policy folded over the same sequence says — the lists see the
    estimator only through its verdict, the estimator changes only on lookups and `purge` -/
theorem history_eq_spec (kh : κ → UInt64) (c0 : WTinyLfu κ ν) (h0 : c0.Inv) (ops : List (CacheOp κ ν)) :
    ∃ c', runOps (WTinyLfu.step kh) c0 ops = .ok c' ∧
      (view c', c'.est) =
        ops.foldl (WtSpec.stepE kh c0.window.cap c0.main.prob.cap c0.main.prot.cap) (view c0, c0.est) :=
  ⟨_, (WTinyLfu.run_spec kh h0 ops).1, rfl⟩
end C10
