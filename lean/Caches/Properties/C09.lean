/-
  C09 — AdaptiveCache follows the ARC policy and keeps 0 ≤ p ≤ size.
  `ArcSpec` is the policy as the property text states it; on every well-formed cache (all sizes ≥ 1, all contents,
  all values of p) the model of the code computes exactly that. `p ≤ size` in every reachable state is part of the
  invariant (C01.arc_reachable).
-/
import Caches.Lemmas.Arc
set_option linter.unusedSectionVars false
namespace C09
open M
variable {κ ν : Type} [DecidableEq κ]

def view (a : Arc κ ν) : ArcSpec.St κ ν :=
  { t1 := a.recent.items, t2 := a.frequent.items, b1 := a.recentEvict.items, b2 := a.frequentEvict.items, p := a.p }

/-- `replace` takes its victim from the recent list iff it is non-empty and longer than `p`
    (or equal to `p` on a frequent-ghost hit), or the frequent list is empty -/
theorem replace_rule (a : Arc κ ν) (hitB2 : Bool) :
    a.replaceFromRecent hitB2 = true ↔
      a.recent.items.length > 0 ∧ (a.recent.items.length > a.p ∨ (a.recent.items.length = a.p ∧ hitB2 = true) ∨
        a.frequent.items = []) := by
  unfold Arc.replaceFromRecent RawLru.isEmpty; simp [or_assoc]

theorem fromRecent_eq_spec (a : Arc κ ν) (b : Bool) : a.replaceFromRecent b = ArcSpec.fromRecent (view a) b := rfl

/-- the adaptation amounts of the code are the ones of the statement: `max 1 (|other ghosts| / |hit ghosts|)` -/
theorem delta_eq (x y : Nat) (hy : 0 < y) : (if x > y then x / y else 1) = max 1 (x / y) := Arc.delta_eq x y hy

theorem replace_eq_spec (a : Arc κ ν) (hitB2 : Bool) (h : a.Inv) :
    ∃ a' d, a.replace hitB2 = .ok (a', d) ∧ view a' = ArcSpec.replace (view a) a.size hitB2 ∧ a'.size = a.size :=
  let ⟨d, hd⟩ := Arc.replace_spec a (view a) hitB2 h.spos h.cb1 h.cb2
  ⟨_, d, hd, rfl, rfl⟩

theorem trimRecent_view (a1 : Arc κ ν) (b1 : Nat) :
    view (a1.trimRecentGhost b1).1 =
      (if b1 > a1.size - a1.p then { view a1 with b1 := (view a1).b1.dropLast } else view a1) := by
  rw [show a1.trimRecentGhost b1 = (a1.set (view a1)).trimRecentGhost b1 from rfl, Arc.trimRecentGhost_spec]
  show ({ view a1 with b1 := if b1 > a1.size - a1.p then _ else _ } : ArcSpec.St κ ν) = _
  split <;> rfl

theorem trimFrequent_view (a1 : Arc κ ν) (b2 : Nat) :
    view (a1.trimFrequentGhost b2).1 =
      (if b2 > a1.p then { view a1 with b2 := (view a1).b2.dropLast } else view a1) := by
  rw [show a1.trimFrequentGhost b2 = (a1.set (view a1)).trimFrequentGhost b2 from rfl, Arc.trimFrequentGhost_spec]
  show ({ view a1 with b2 := if b2 > a1.p then _ else _ } : ArcSpec.St κ ν) = _
  split <;> rfl

/-- **`put` = the policy** (resident lists, ghost lists, adaptation target and result) -/
theorem put_eq_spec (a : Arc κ ν) (k : κ) (v : ν) (h : a.Inv) :
    ∃ r a' d, a.put k v = .ok (r, a', d) ∧ (view a', r) = ArcSpec.put (view a) a.size k v :=
  let ⟨d, hd⟩ := Arc.put_spec a (view a) h k v
  ⟨_, _, d, hd, rfl⟩

/-- **`get` / `get_mut` = the policy**: a second access moves the entry to the frequent list -/
theorem get_eq_spec (a : Arc κ ν) (k : κ) (w : Option ν) (h : a.Inv) :
    ∃ r a' d, a.getMut k w = .ok (r, a', d) ∧ (view a', r) = ArcSpec.get (view a) k w :=
  let ⟨d, hd⟩ := Arc.getMut_spec a (view a) h k w
  ⟨_, _, d, hd, rfl⟩

/-- `0 ≤ p ≤ size` in every reachable state, for every size ≥ 1 and every history -/
theorem p_le_size (size : Nat) (a0 : Arc κ ν) (hc : Arc.new size = some a0) (ops : List (CacheOp κ ν)) :
    ∃ a, runOps Arc.step a0 ops = .ok a ∧ a.p ≤ size ∧ a.recent.items.length + a.frequent.items.length ≤ size := by
  have hi := Arc.inv_new hc
  obtain rfl : a0.size = size := by rw [(Arc.new_ok hc).1]
  obtain ⟨hr, hi'⟩ := Arc.run_spec a0 (view a0) hi ops
  exact ⟨_, hr, hi'.ple, hi'.bound⟩

/-- a full cache always makes room before admitting: `replace` on a full, well-formed cache removes exactly one resident entry -/
theorem full_makes_room (a : Arc κ ν) (hitB2 : Bool) (h : a.Inv) (hfull : a.recent.items.length + a.frequent.items.length ≥ a.size) :
    ∃ a' d, a.replace hitB2 = .ok (a', d) ∧
      a'.recent.items.length + a'.frequent.items.length + 1 = a.recent.items.length + a.frequent.items.length := by
  obtain ⟨d, hd⟩ := Arc.replace_spec a (view a) hitB2 h.spos h.cb1 h.cb2
  obtain ⟨_, _, _, _, _, _, hl, _⟩ :=
    ArcSpec.replace_flow (s := view a) h.spos h.b1bound h.b2bound (Nat.lt_of_lt_of_le h.spos hfull) rfl
  exact ⟨_, d, hd, hl⟩

/-- non-vacuity: size 1, `put a, put b, put a` ends with exactly one resident entry (the pre-repair code kept two) -/
example : (ArcSpec.put ⟨[(2, 20)], [], [(1, 10)], [], 0⟩ 1 1 (11 : Nat)).1.t1 = [] ∧
          (ArcSpec.put ⟨[(2, 20)], [], [(1, 10)], [], 0⟩ 1 1 (11 : Nat)).1.t2 = [(1, 11)] := by decide

/-- non-vacuity of `Inv`: an ARC state with both ghost lists populated and `p = 1` -/
example : ({ size := 2, p := 1, recent := ⟨2, [(1, 10)], false⟩, frequent := ⟨2, [(2, 20)], false⟩,
             recentEvict := ⟨2, [(3, 30)], false⟩, frequentEvict := ⟨2, [(4, 40)], false⟩ } : Arc Nat Nat).Inv := by
  constructor <;> decide

/-- **`remove` = the policy**: T1, T2, then the two ghost lists; `p` untouched -/
theorem remove_eq_spec (a : Arc κ ν) (k : κ) :
    (view (a.remove k).1, (a.remove k).2.1) = ArcSpec.remove (view a) k :=
  let ⟨h1, h2⟩ := Arc.remove_spec a (view a) k
  Prod.ext (congrArg view h1) h2

theorem peekMut_eq_spec (a : Arc κ ν) (k : κ) (w : Option ν) :
    view (a.peekMut k w).1 = ArcSpec.peekMut (view a) k w :=
  congrArg view (Arc.peekMut_spec a (view a) k w)

/-- **every operation = the policy**, on every well-formed cache -/
theorem step_eq_spec (a : Arc κ ν) (o : CacheOp κ ν) (h : a.Inv) :
    ∃ a', a.step o = .ok a' ∧ view a' = ArcSpec.step a.size (view a) o :=
  ⟨_, Arc.step_spec a (view a) h o, rfl⟩

/-- **refinement over every history**: from the constructor, any sequence of public operations runs without a
    fault and leaves T1, T2, B1, B2 (entry by entry, in recency order) and the adaptation target `p` exactly as
    the ARC policy, folded over the same sequence from the empty state, says -/
theorem history_eq_spec (size : Nat) (a0 : Arc κ ν) (hn : Arc.new size = some a0) (ops : List (CacheOp κ ν)) :
    ∃ a', runOps Arc.step a0 ops = .ok a' ∧
      view a' = ops.foldl (ArcSpec.step size) { t1 := [], t2 := [], b1 := [], b2 := [], p := 0 } := by
  refine ⟨_, (Arc.run_spec a0 (view a0) (Arc.inv_new hn) ops).1, ?_⟩
  rw [(Arc.new_ok hn).1]; rfl

/-- non-vacuity of the history theorem: a history through eviction to B1, a recent-ghost hit that raises `p`, removal -/
example :
    let s := [CacheOp.put 1 10, .put 2 20, .getMut 1 none, .put 3 30, .put 2 21, .remove 3].foldl
      (ArcSpec.step 2) ({ t1 := [], t2 := [], b1 := [], b2 := [], p := 0 } : ArcSpec.St Nat Nat)
    (s.t1, s.t2, s.b1, s.b2, s.p) = ([], [(2, 21)], [], [(1, 10)], 1) := by decide
end C09
