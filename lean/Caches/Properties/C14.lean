/-
  C14 — iterators visit each entry exactly once, in order, from both ends.

  The model of the four entry iterators is the cursor triple `(len, ptr, end)` with the real `next` / `next_back`
  code (reading a sentinel as an entry is a `Fault`). For EVERY list (no invariant needed), every iterator family and
  every script of `next` / `next_back` calls of any length, the yields are the front/back pops of the list
  (`IterSpec.popEnds`), of the reversed list for the `*_lru` families. Corollaries: exactly `len` items, none twice,
  none skipped, `lru = reverse mru`, exact size hints, exhausted iterators stay exhausted, no sentinel is ever read,
  writes through `iter_mut` keep keys and order.
  The per-list iterators of TwoQueueCache / AdaptiveCache are these iterators on the respective list.
  `ptr_cursors_*`: the same cursors on real addresses (stepping through the heap by `.next` / `.prev`, as the Rust
  iterators do) are simulated by the position model on every well-formed chain: the nodes they dereference are exactly
  the entries at the model's positions — never a sentinel, never a node outside the chain.
-/
import Caches.Lemmas.Assoc
import Caches.Lemmas.PtrIter
namespace C14
open M M.IterSpec
variable {κ ν : Type}

/-- `iter`, `iter_mut`, `keys`, `values`, `values_mut`, `into_iter`: any script yields the pops of the list; never a fault -/
theorem yields_mru (items : AL κ ν) (s : List Bool) :
    Iter.run false items s (Iter.start items) = .ok (popEnds items s) :=
  run_window items [] items [] s (Iter.start items) (by simp) rfl rfl (by simp [Iter.start])

/-- `iter_lru`, `iter_lru_mut`, `keys_lru`, `values_lru`, `values_lru_mut`: the same on the reversed list -/
theorem yields_lru (items : AL κ ν) (s : List Bool) :
    Iter.run true items s (Iter.start items) = .ok (popEnds items.reverse s) := by
  rw [run_lru_flip, yields_mru, popEnds_reverse]

/-- walking forward `len` times yields every entry once, most recent first, with hints `len-1, …, 0` -/
theorem forward_all (items : AL κ ν) :
    popEnds items (List.replicate items.length false) =
      (List.zip (items.map some) ((List.range items.length).reverse)) := by
  induction items with
  | nil => rfl
  | cons x r ih =>
    simp only [List.length_cons, List.replicate_succ, popEnds, ih, List.map_cons]
    rw [List.range_succ, List.reverse_append]
    simp

/-- `*_lru` is the exact reverse of the MRU order -/
theorem lru_reverse_mru (items : AL κ ν) :
    (yielded items.reverse (List.replicate items.length false)) = (yielded items (List.replicate items.length false)).reverse := by
  -- a forward walk yields the list itself: drop the hints from `forward_all`
  have key : ∀ l : AL κ ν, yielded l (List.replicate l.length false) = l := fun l => by
    unfold yielded
    rw [forward_all]
    refine (List.filterMap_map (f := Prod.fst) (g := id)).symm.trans ?_
    rw [List.map_fst_zip (by simp), List.filterMap_map]
    exact List.filterMap_some
  rw [key, ← items.length_reverse, key]

/-- mixing `next` and `next_back` never yields an entry twice and never skips one:
    what was yielded plus what is left is a rearrangement of the list -/
theorem no_dup_no_skip (items : AL κ ν) (s : List Bool) : (yielded items s ++ remaining items s).Perm items :=
  popEnds_perm items s

/-- hence at most `len` items are ever yielded, exactly `len` once the iterator is exhausted -/
theorem count_exact (items : AL κ ν) (s : List Bool) :
    (yielded items s).length + (remaining items s).length = items.length := by
  have := (popEnds_perm items s).length_eq
  simpa using this

/-- `size_hint` / `len` after every call = number of entries still to come -/
theorem size_hint_exact (items : AL κ ν) (s : List Bool) (i : Nat) (hi : i < (popEnds items s).length) :
    ((popEnds items s)[i]?.map (·.2)) = some (remaining items (s.take (i + 1))).length := popEnds_hint items s i hi

/-- an exhausted iterator stays exhausted -/
theorem fused (s : List Bool) : ∀ y ∈ popEnds ([] : AL κ ν) s, y = (none, 0) := by
  induction s with
  | nil => simp
  | cons b t ih => simpa using ih

/-- the cursor never reads a sentinel as an entry: no script faults -/
theorem never_faults (lru : Bool) (items : AL κ ν) (s : List Bool) : ∃ ys, Iter.run lru items s (Iter.start items) = .ok ys := by
  cases lru
  · exact ⟨_, yields_mru items s⟩
  · exact ⟨_, yields_lru items s⟩

/-- keys / values iterators are the projections of the entry iterators -/
theorem projections (items : AL κ ν) (s : List Bool) :
    (popEnds items s).map (fun y => (y.1.map Prod.fst, y.2)) = popEnds (items.map Prod.fst) s ∧
    (popEnds items s).map (fun y => (y.1.map Prod.snd, y.2)) = popEnds (items.map Prod.snd) s := by
  induction items, s using pop_induction <;> simp_all

/-- writes through a mutable iterator keep the keys and their order -/
theorem iterMut_writes_keep_order [DecidableEq κ] (items : AL κ Nat) (wbase : Nat) (ys : List (Option (κ × Nat) × Nat)) (i : Nat) :
    keys (writeYields items wbase ys i) = keys items := by
  induction ys generalizing items i with
  | nil => rfl
  | cons y t ih =>
    obtain ⟨o, n⟩ := y
    cases o with
    | none => simp only [writeYields]; exact ih items (i + 1)
    | some e => simp only [writeYields]; rw [ih, keys_setVal]

open M.Chain

/-- from a well-formed chain, for every script of `ptr`-side / `end`-side steps (any interleaving, any length, also
    past exhaustion): the pointer cursors yield exactly the nodes at the positions the model reads, and every node they
    dereference is an entry of the chain -/
theorem ptr_cursors_faithful_and_safe (h : Heap) (head tail : Nat) (l : List Nat) (hw : WF h head tail l)
    (s : List Bool) :
    PIter.run h s (PIter.start h head tail l.length) =
      (Iter.posRun s { len := l.length, ptr := 1, endp := l.length }).map (fun o => o.bind (fun i => l[i]?)) ∧
    ∀ a, some a ∈ PIter.run h s (PIter.start h head tail l.length) → a ∈ l := by
  -- both are the pops of the chain
  have e := ptr_run_start h head tail l hw s
  refine ⟨e.trans (pos_window l [] l [] s _ (by simp) rfl rfl (by simp)).symm, fun a ha => ?_⟩
  obtain ⟨y, hy, hya⟩ := List.mem_map.1 (e ▸ ha)
  exact (popEnds_perm l s).subset (List.mem_append_left _ (List.mem_filterMap.2 ⟨y, hy, hya⟩))

/-- on three entries: positions 0 and 1 from the `ptr` side, 2 from the `end` side, then exhausted for good -/
example : Iter.posRun [false, false, true, false, false] { len := 3, ptr := 1, endp := 3 } =
    [some 0, some 1, some 2, none, none] := by decide

example : popEnds [(1, 10), (2, 20), (3, 30)] [false, true, false, false] =
    [(some (1, 10), 2), (some (3, 30), 1), (some (2, 20), 0), (none, 0)] := by decide
end C14
