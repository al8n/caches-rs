/-
  C11 — TinyLFU estimates never under-count, age on schedule, and compare consistently.

  Reference (`TinyLfu.Ref`): exact per-hash bookkeeping written from the property text — the first access in a
  sample window sets the doorkeeper bit, further ones count up to 15, every reset halves the counts and clears
  the doorkeeper; a reset happens exactly when the number of recorded accesses plus explicit `try_reset` calls
  reaches the sample size.
  Theorems hold for every well-formed estimator (`TinyLfu.WF`: any number of rows ≥ 1, any row width covering
  the mask, any seeds, any Bloom geometry without overflow), both position schemes, every raw 64-bit hash and every
  interleaving of `increment`, `try_reset`, `clear` — by induction over the history.
-/
import Caches.Lemmas.TinyLfu
namespace C11
open M M.TinyLfu

/-- saturating increment of one nibble leaves the other nibble alone; result stays a byte (all 256 bytes) -/
theorem nib_inc_spec : ∀ b, b < 256 → ∀ odd : Bool,
    Nib.inc b odd < 256 ∧ Nib.get (Nib.inc b odd) odd = min 15 (Nib.get b odd + 1) ∧
    Nib.get (Nib.inc b odd) (!odd) = Nib.get b (!odd) := Nib.inc_spec

/-- `(b >> 1) & 0x77` halves both nibbles (all 256 bytes) -/
theorem nib_halve_spec : ∀ b, b < 256 → ∀ odd : Bool,
    Nib.halve b < 256 ∧ Nib.get (Nib.halve b) odd = Nib.get b odd / 2 := Nib.halve_spec

/-- the operations that change the estimator -/
inductive Op | inc (h : UInt64) | tryReset | clear

def stepT (t : TinyLfu) : Op → Res TinyLfu
  | .inc h => t.increment h
  | .tryReset => .ok t.tryReset
  | .clear => .ok t.clear

def stepR (samples : Nat) (r : Ref) : Op → Ref
  | .inc h => r.increment samples h
  | .tryReset => r.tryReset samples
  | .clear => Ref.zero

def runT : TinyLfu → List Op → Res TinyLfu
  | t, [] => .ok t
  | t, o :: rest => match stepT t o with
    | .error f => .error f
    | .ok t' => runT t' rest

def runR (samples : Nat) : Ref → List Op → Ref
  | r, [] => r
  | r, o :: rest => runR samples (stepR samples r o) rest

theorem step_total (t : TinyLfu) (o : Op) (hwf : t.WF) : ∃ t', stepT t o = .ok t' ∧ t'.WF ∧ SameGeo t t' := by
  cases o with
  | inc h => exact increment_total t hwf h
  | tryReset => exact ⟨_, rfl, tryReset_wf t hwf⟩
  | clear => exact ⟨_, rfl, (clear_spec t hwf).wf, (clear_spec t hwf).geo⟩

/-- histories that only ever record the hash `h0` -/
def onlyHash (h0 : UInt64) : List Op → Prop
  | [] => True
  | .inc h :: rest => h = h0 ∧ onlyHash h0 rest
  | _ :: rest => onlyHash h0 rest

/-- the part about `Up` hands `onlyHash` on for the rest of the history, which is the form the induction of `run_rel` consumes -/
theorem step_rel (t : TinyLfu) (r : Ref) (o : Op) (t' : TinyLfu) (hwf : t.WF) (hs : Sim t r) (h : stepT t o = .ok t') :
    Sim t' (stepR t.samples r o) ∧ ∀ h0 rest, onlyHash h0 (o :: rest) → Up t r h0 →
      Up t' (stepR t.samples r o) h0 ∧ onlyHash h0 rest := by
  cases o with
  | inc x =>
    have ir := increment_rel t r hwf hs x t' h
    exact ⟨ir.1, fun h0 rest ho hu => by obtain ⟨rfl, hr⟩ := ho; exact ⟨ir.2 hu, hr⟩⟩
  | tryReset => cases h; exact ⟨(tryReset_rel t r hwf hs).1, fun h0 _ ho hu => ⟨(tryReset_rel t r hwf hs).2 h0 hu, ho⟩⟩
  | clear => cases h; exact ⟨(clear_rel t hwf).1, fun h0 _ ho _ => ⟨(clear_rel t hwf).2 h0, ho⟩⟩

theorem run_rel (ops : List Op) (t : TinyLfu) (r : Ref) (hwf : t.WF) (hs : Sim t r) :
    ∃ t', runT t ops = .ok t' ∧ t'.WF ∧ SameGeo t t' ∧ Sim t' (runR t.samples r ops) ∧
      ∀ h0, onlyHash h0 ops → Up t r h0 → Up t' (runR t.samples r ops) h0 := by
  induction ops generalizing t r with
  | nil => exact ⟨t, rfl, hwf, .refl t, hs, fun _ _ hu => hu⟩
  | cons o rest ih =>
    obtain ⟨t1, h1, hwf1, hg1⟩ := step_total t o hwf
    obtain ⟨hs1, hu1⟩ := step_rel t r o t1 hwf hs h1
    obtain ⟨t2, h2, hwf2, hg2, hs2, hu2⟩ := ih t1 _ hwf1 hs1
    rw [hg1.samples] at hs2 hu2
    exact ⟨t2, by simp only [runT, h1, h2], hwf2, hg1.trans hg2, hs2,
      fun h0 ho hu => hu2 h0 (hu1 h0 rest ho hu).2 (hu1 h0 rest ho hu).1⟩

/-- **simulation over every history**: no operation faults (C05 for the estimator) and the estimator dominates the reference -/
theorem sim_run (ops : List Op) (t : TinyLfu) (r : Ref) (hwf : t.WF) (hs : Sim t r) :
    ∃ t', runT t ops = .ok t' ∧ t'.WF ∧ SameGeo t t' ∧ Sim t' (runR t.samples r ops) :=
  let ⟨t', h, hwf', hg, hs', _⟩ := run_rel ops t r hwf hs; ⟨t', h, hwf', hg, hs'⟩

/-- a freshly cleared estimator simulates the zero reference -/
theorem sim_fresh (t : TinyLfu) (hwf : t.WF) : Sim t.clear Ref.zero := (clear_rel t hwf).1

theorem sim_from_clear (ops : List Op) (t : TinyLfu) (hwf : t.WF) :
    ∃ t', runT t.clear ops = .ok t' ∧ t'.WF ∧ Sim t' (runR t.samples Ref.zero ops) := by
  obtain ⟨t', hr, hwf', _, hs⟩ := sim_run ops t.clear Ref.zero (clear_spec t hwf).wf (clear_rel t hwf).1
  exact ⟨t', hr, hwf', hs⟩

/-- **never under-counts, never exceeds 16**: after any history from a cleared estimator, for every hash -/
theorem never_undercount (ops : List Op) (t : TinyLfu) (hwf : t.WF) (h : UInt64) :
    ∃ t' e, runT t.clear ops = .ok t' ∧ t'.estimate h = .ok e ∧
      (runR t.samples Ref.zero ops).estimate h ≤ e ∧ e ≤ 16 := by
  obtain ⟨t', hr, hwf', hs⟩ := sim_from_clear ops t hwf
  obtain ⟨e, he⟩ := estimate_bounds t' _ hwf' hs h
  exact ⟨t', e, hr, he⟩

/-- **no false negatives**: a hash recorded since the last reset is reported by the doorkeeper -/
theorem no_false_negative (ops : List Op) (t : TinyLfu) (hwf : t.WF) (h : UInt64)
    (hd : (runR t.samples Ref.zero ops).door h = true) :
    ∃ t', runT t.clear ops = .ok t' ∧ t'.contains h = .ok true := by
  obtain ⟨t', hr, hwf', hs⟩ := sim_from_clear ops t hwf
  exact ⟨t', hr, contains_of_ref t' _ hwf' hs h hd⟩

/-- **0 for every key right after clear** -/
theorem zero_after_clear (t : TinyLfu) (hwf : t.WF) (h : UInt64) : t.clear.estimate h = .ok 0 :=
  estimate_exact t.clear Ref.zero h (clear_spec t hwf).wf (clear_rel t hwf).1 ((clear_rel t hwf).2 h)

/-- **exact when only one key has ever been recorded** -/
theorem exact_single_key (ops : List Op) (h0 : UInt64) (t : TinyLfu) (hwf : t.WF) (ho : onlyHash h0 ops) :
    ∃ t', runT t.clear ops = .ok t' ∧ t'.estimate h0 = .ok ((runR t.samples Ref.zero ops).estimate h0) := by
  obtain ⟨t', hr, hwf', _, hs, hu⟩ := run_rel ops t.clear Ref.zero (clear_spec t hwf).wf (clear_rel t hwf).1
  exact ⟨t', hr, estimate_exact t' _ h0 hwf' hs (hu h0 ho ((clear_rel t hwf).2 h0))⟩

/-- **reset schedule**: the window counter counts `increment`s and explicit `try_reset`s since the last reset,
    and a reset (counter back to 0, doorkeeper cleared, counts halved) happens exactly when it reaches `samples` -/
theorem tryReset_schedule (t : TinyLfu) :
    (t.w + 1 ≥ t.samples → t.tryReset = ({ t with w := t.w + 1 } : TinyLfu).reset ∧ t.tryReset.w = 0) ∧
    (t.w + 1 < t.samples → t.tryReset = { t with w := t.w + 1 }) := by
  rw [tryReset_eq]
  exact ⟨fun h => by rw [if_pos h]; exact ⟨rfl, rfl⟩, fun h => if_neg (Nat.not_le.2 h)⟩

theorem window_counter_tracks (ops : List Op) (t : TinyLfu) (hwf : t.WF) :
    ∃ t', runT t.clear ops = .ok t' ∧ t'.w = (runR t.samples Ref.zero ops).w := by
  obtain ⟨t', hr, _, hs⟩ := sim_from_clear ops t hwf
  exact ⟨t', hr, hs.w_eq⟩

/-- **comparisons**: `lt/le/gt/ge/eq` order two keys exactly as their estimates do, and never fault -/
theorem compare_consistent (t : TinyLfu) (hwf : t.WF) (c : TinyLfu.Cmp) (a b : UInt64) :
    ∃ ea eb, t.estimate a = .ok ea ∧ t.estimate b = .ok eb ∧ t.compare c a b = .ok (c.eval ea eb) :=
  compare_spec t hwf c a b

theorem cmp_eval_spec (a b : Nat) :
    TinyLfu.Cmp.eq.eval a b = decide (a = b) ∧ TinyLfu.Cmp.le.eval a b = decide (a ≤ b) ∧ TinyLfu.Cmp.lt.eval a b = decide (a < b) ∧
    TinyLfu.Cmp.gt.eval a b = decide (a > b) ∧ TinyLfu.Cmp.ge.eval a b = decide (a ≥ b) := by
  refine ⟨?_, rfl, rfl, rfl, rfl⟩
  show (a == b) = decide (a = b)
  by_cases h : a = b <;> simp [h]

/-- the driver's executable geometry check implies the hypothesis `WF` of every theorem above -/
theorem wfb_sound (t : TinyLfu) (h : t.wfb = true) : t.WF := by
  unfold TinyLfu.wfb Sketch.wfb Bloom.wfb at h
  simp only [Bool.and_eq_true, List.all_eq_true, decide_eq_true_eq, Bool.not_eq_true', List.isEmpty_eq_false_iff] at h
  obtain ⟨⟨⟨h1, h2⟩, h3⟩, ⟨⟨⟨d1, d2⟩, d3⟩, d4⟩⟩ := h
  refine ⟨⟨h1, ?_, h3⟩, ⟨d1, d2, d3, d4⟩⟩
  cases hs : t.sketch.scheme with
  | std seeds => rw [hs] at h2; simpa using h2
  | core => trivial

/-- non-vacuity: a concrete well-formed estimator (2 counters per row, 512-bit doorkeeper with 1 probe) -/
def sample : TinyLfu :=
  { sketch := { rows := [[0], [0], [0], [0]], mask := 1, scheme := .core },
    door := { bits := List.replicate 8 0, sizeMask := 511, setLocs := 1, shift := 55 }, samples := 4, w := 0 }

example : sample.WF := by
  refine ⟨⟨?_, trivial, by decide⟩, ⟨by decide, by decide, by decide, by decide⟩⟩
  intro r hr
  simp [sample] at hr
  subst hr
  exact ⟨by intro b hb; simp at hb; omega, by decide⟩
end C11
