/-
  C03 — memory safety of the intrusive lists.
  Layer A: on every reachable list-level state no operation reads a sentinel as an entry or unwraps `None`.
  Layer B: the pointer chain (`Model/Chain`) — `attach`, `detach`, move-to-front, the reads of `(*tail).prev`, the two
  cursor walks — on chains of every length; and the pointer-level RawLRU (`Model/PtrLru`: heap of link cells, node
  payloads, hash index as a function, allocator-chosen addresses): after **every history** the chain between the two
  sentinels is well formed (distinct addresses, forward and backward links agree), the index holds exactly the chained
  nodes under their own keys, `len` is the chain length, and every address an operation dereferences is a chained node
  or a sentinel (`ptr_safe_history`, `ptr_derefs`). The real chain is audited through the `verif_audit` hook after every
  operation of every trace (forward walk = reverse of backward walk, sentinels at the ends, index ↔ chain), and freed
  memory is poisoned and quarantined by the harness allocator so that a stale read cannot go unnoticed.
-/
import Caches.Lemmas.PtrRun
import Caches.Lemmas.AbortG
set_option linter.unusedSectionVars false
namespace C03
open M M.RawLru
variable {κ ν : Type} [DecidableEq κ]

/-- the read of `(*tail).prev` as an entry in `replace_or_create_node` is never a sentinel read:
    on a well-formed cache `put` cannot fail with any `Fault` -/
theorem rawlru_put_no_sentinel_read (c : RawLru κ ν) (k : κ) (v : ν) (h : c.Inv) (f : Fault) :
    c.put k v ≠ .error f := by
  obtain ⟨c', r, e, hp, _⟩ := put_total_inv c k v h
  rw [hp]; exact fun hc => by cases hc

/-- `remove_lru` on an empty list returns `None` without dereferencing the head sentinel -/
theorem rawlru_removeLru_guard (c : RawLru κ ν) (h : c.items = []) : c.removeLru = (c, none, {}) :=
  removeLru_none c h

/-- dropping the cache releases every node exactly once: the drop list has two objects per entry -/
theorem rawlru_drop_all (c : RawLru κ ν) : c.dropCache.drops.length = 2 * c.items.length := by
  unfold RawLru.dropCache
  induction c.items with
  | nil => rfl
  | cons e t ih => simp only [List.flatMap_cons, List.length_append, dropEnt, List.length_cons, List.length_nil, ih]; omega

open M.Chain

/-- `attach` (raw.rs:1541) of a node that is not in the chain: well formed, node first -/
theorem chain_attach (h : Heap) (head tail n : Nat) (l : List Nat) (hw : WF h head tail l)
    (hn : n ∉ head :: (l ++ [tail])) : WF (attach h head n) head tail (n :: l) := attach_wf h head tail n l hw hn

/-- `detach` (raw.rs:1534) of any entry: well formed, exactly that entry unlinked -/
theorem chain_detach (h : Heap) (head tail : Nat) (l : List Nat) (hw : WF h head tail l) (n : Nat) (hn : n ∈ l) :
    WF (detach h n) head tail (l.erase n) := detach_wf h head tail l hw n hn

/-- `detach` dereferences only the node, its predecessor (head or an entry) and its successor (an entry or tail):
    never a freed or foreign address -/
theorem chain_detach_derefs (h : Heap) (head tail : Nat) (l : List Nat) (hw : WF h head tail l) (n : Nat) (hn : n ∈ l) :
    (h n).prev ∈ head :: l ∧ (h n).next ∈ l ++ [tail] := by
  obtain ⟨s, t, rfl⟩ := List.append_of_mem hn
  have hl : Linked h ((head :: s) ++ n :: (t ++ [tail])) := by simpa using hw.2
  have hp := List.mem_of_getLast? (linked_prev h _ n _ hl (by simp))
  have hx := List.mem_of_head? (linked_next h _ n _ hl (by simp))
  exact ⟨((List.sublist_append_left s _).cons_cons head).subset hp,
    by rw [List.append_assoc]; exact List.mem_append_right _ (List.mem_cons_of_mem _ hx)⟩

/-- the hit path `detach; attach` is move-to-front -/
theorem chain_move_front (h : Heap) (head tail : Nat) (l : List Nat) (hw : WF h head tail l) (n : Nat) (hn : n ∈ l) :
    WF (attach (detach h n) head n) head tail (n :: l.erase n) := move_front_wf h head tail l hw n hn

/-- `(*tail).prev` read as an entry (remove_lru_in, replace_or_create_node) is an entry whenever the list is
    non-empty, and is the head sentinel exactly when it is empty — the case `remove_lru_in` tests for (`prev != head`)
    and `replace_or_create_node` excludes by `len == cap`, `cap ≠ 0` -/
theorem chain_tail_prev (h : Heap) (head tail : Nat) (l : List Nat) (hw : WF h head tail l) :
    (l ≠ [] → (h tail).prev ∈ l) ∧ (l = [] → (h tail).prev = head) := by
  constructor
  · intro hne
    obtain ⟨ys, n, rfl⟩ := exists_snoc hne
    rw [tail_prev h head tail ys n hw]; exact List.mem_append_right _ List.mem_cons_self
  · rintro rfl; exact hw.2.2.1

/-- the iterator's two cursors walk exactly the entries: forwards from `(*head).next`, backwards from `(*tail).prev` -/
theorem chain_walks (h : Heap) (head tail : Nat) (l : List Nat) (hw : WF h head tail l) :
    walkNext h l.length (h head).next = l ∧ walkPrev h l.length (h tail).prev = l.reverse := by
  have := walkPrev_linked h [head] l.reverse tail (by simpa using hw.2)
  exact ⟨walkNext_linked h head l [tail] hw.2, by simpa using this⟩

/-- refinement: unlinking node `n` is `erase` of its key on the abstract recency list -/
theorem view_erase (ent : Nat → κ × ν) (l : List Nat) (hk : (keys (l.map ent)).Nodup) (n : Nat) (hn : n ∈ l) :
    (l.erase n).map ent = erase (ent n).1 (l.map ent) := map_erase_key ent l hk n hn

/-- after any history, with any index function and any admissible allocator: chain well formed, index = chained nodes
    under their keys, `len` = chain length ≤ capacity -/
theorem ptr_safe_history [DecidableEq ν] (alloc : PLru κ ν → Nat) (ha : Admissible alloc) (ops : List (POp κ ν))
    (p : PLru κ ν) (l : List Nat) (h : Rep p l) :
    ∃ l', Rep (ops.foldl (pstep alloc) p) l' := by
  obtain ⟨l', _, hr, _, _⟩ := ptr_refines_history alloc ha ops p l h
  exact ⟨l', hr⟩

/-- the addresses the operations dereference are chained nodes: the index only ever answers with a chained node, and
    the node before the tail sentinel is an entry whenever `len ≠ 0` (tested by `PLru.removeLru`, implied by
    `len = cap ≠ 0` in `PLru.put`) -/
theorem ptr_derefs (p : PLru κ ν) (l : List Nat) (h : Rep p l) :
    (∀ k n, p.idx k = some n → n ∈ l ∧ (p.heap n).prev ∈ p.head :: l ∧ (p.heap n).next ∈ l ++ [p.tail]) ∧
    (p.len ≠ 0 → (p.heap p.tail).prev ∈ l) := by
  constructor
  · intro k n hi
    have hn := ((h.idx k n).1 hi).1
    exact ⟨hn, chain_detach_derefs _ _ _ _ h.wf n hn⟩
  · intro h0
    exact (chain_tail_prev _ _ _ _ h.wf).1 (by rintro rfl; exact h0 h.len)

/-- non-vacuity: a concrete three-node chain is well formed, and detaching its middle node leaves the two others -/
example : let h : Heap := fun x => match x with
            | 0 => ⟨0, 2⟩ | 2 => ⟨0, 3⟩ | 3 => ⟨2, 4⟩ | 4 => ⟨3, 1⟩ | _ => ⟨4, 1⟩
          WF h 0 1 [2, 3, 4] ∧ WF (detach h 3) 0 1 [2, 4] := by
  refine ⟨⟨by decide, by simp [Linked]⟩, ⟨by decide, by simp [Linked, detach, setNext, setPrev]⟩⟩

/-- non-vacuity of `Rep`: a two-node pointer-level cache whose index, payloads and links agree -/
example : Rep ({ cap := 3, heap := fun x => match x with | 0 => ⟨0, 5⟩ | 5 => ⟨0, 7⟩ | 7 => ⟨5, 1⟩ | _ => ⟨7, 1⟩,
                 ent := fun x => if x = 5 then (1, 10) else (2, 20),
                 idx := fun k => if k = 1 then some 5 else if k = 2 then some 7 else none,
                 head := 0, tail := 1, len := 2 } : PLru Nat Nat) [5, 7] := by
  refine ⟨⟨by decide, by simp [Chain.Linked]⟩, rfl, ?_, by decide⟩
  intro k n
  simp only [List.mem_cons, List.mem_nil_iff, or_false]
  constructor
  · intro h
    split at h
    · injection h with h; subst h; simp_all
    · split at h
      · injection h with h; subst h; simp_all
      · cases h
  · rintro ⟨h | h, hk⟩ <;> subst h <;> simp at hk <;> subst hk <;> simp

/-! ### composite caches: nodes moved between lists

  `Model/AbortG.lean` is a heap of nodes shared by the lists of SegmentedCache / TwoQueueCache / AdaptiveCache; the
  crate-internal node primitives (`put_nonnull`, `put_or_evict_nonnull`, `remove_and_return_ent`, `remove_lru_in`,
  attach/detach, `Box::from_raw`) raise the ghost flag `fault` when used outside their contract: linking a node that
  is already linked, unboxing a node that is still linked or already freed, reading the sentinel as an entry.
  The theorem proved for C18 (every operation from every invariant heap, aborted at any user call) contains the
  panic-free case: the flag is never raised, the node ids stay distinct (no node in two lists) and every index entry
  names a node linked in its own list. -/
section Composite
open M.AG
variable [DecidableEq κ]

/-- every history of composite-cache operations (panic-free or not) from a freshly built cache -/
theorem composite_never_misuses_nodes (cap : Nat → Nat) (hc : ∀ c, 0 < cap c) (ops : List (COp κ ν × Nat)) :
    let g := ops.foldl (fun g o => o.1.runAt o.2 g) (emptyG cap)
    g.fault = false ∧ (g.pool.map (·.id)).Nodup ∧
      ∀ c k i, (k, i) ∈ g.idx c → ∃ e ∈ chain g c, e.id = i ∧ e.key = k := by
  intro g
  have hI : AG.Inv g := history_inv ops _ (emptyG_inv cap hc)
  exact ⟨hI.nofault, hI.ids_nd, fun c k i hm => hI.idx_chain hm⟩
end Composite

end C03
