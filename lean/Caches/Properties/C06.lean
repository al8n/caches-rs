/-
  C06 — RawLRU keeps exact recency order; eviction and resize take the true LRU.

  Declarative reading of the property text (Layer S), all over the list `items` (MRU first):
    use k      := the entry of k moved to the front
    victim     := the last entry
  Every theorem is for every capacity, every list satisfying `Inv` and every key/value.
-/
import Caches.Lemmas.LruStack
set_option linter.unusedSectionVars false
set_option linter.unusedVariables false
namespace C06
open M M.RawLru
variable {κ ν : Type} [DecidableEq κ]

/-- `put` on a present key is a use: entry to the front with the new value, old value reported -/
theorem put_present_spec (c : RawLru κ ν) (k : κ) (v old : ν) (h : find k c.items = some old) :
    ∃ e, c.put k v = .ok ({ c with items := (k, v) :: erase k c.items }, .update old, e) :=
  ⟨_, put_present c k v old h⟩

/-- absent key, room left: the new entry becomes the most recent one, nothing leaves -/
theorem put_absent_room_spec (c : RawLru κ ν) (k : κ) (v : ν)
    (hk : find k c.items = none) (hroom : c.items.length < c.cap) :
    ∃ e, c.put k v = .ok ({ c with items := (k, v) :: c.items }, .put, e) :=
  ⟨_, put_absent_room c k v hk hroom⟩

/-- absent key, full cache: exactly the least recently used entry is evicted and reported -/
theorem put_evicts_lru (c : RawLru κ ν) (k : κ) (v : ν) (h : c.Inv)
    (hk : find k c.items = none) (hfull : c.items.length = c.cap) (h0 : c.cap ≠ 0) :
    ∃ lru e, c.items.getLast? = some lru ∧
      c.put k v = .ok ({ c with items := (k, v) :: c.items.dropLast }, .evicted lru.1 lru.2, e) := by
  obtain ⟨lru, hl⟩ := getLast?_some_of_pos c.items (by omega)
  exact ⟨lru, _, hl, put_absent_full c k v lru hk hfull h0 hl⟩

/-- `get`/`get_mut` are uses -/
theorem get_spec (c : RawLru κ ν) (k : κ) :
    c.get k = match find k c.items with
      | some v => ({ c with items := (k, v) :: erase k c.items }, some v)
      | none => (c, none) := by
  unfold RawLru.get use; cases find k c.items <;> rfl

theorem getMut_spec (c : RawLru κ ν) (k : κ) (w : Option ν) :
    c.getMut k w = match find k c.items with
      | some v => ({ c with items := (k, w.getD v) :: erase k c.items }, some v)
      | none => (c, none) := by
  unfold RawLru.getMut use; cases find k c.items <;> rfl

/-- `get_lru` returns the least recent entry and makes it the most recent one -/
theorem getLru_spec (c : RawLru κ ν) (h : c.Inv) (e : κ × ν) (hl : c.items.getLast? = some e) :
    c.getLru = ({ c with items := e :: c.items.dropLast }, some e) := by
  unfold RawLru.getLru use
  simp only [hl, erase_last hl h.nd]

/-- `peek*`, `contains`, `get_mru`, size queries: answers only, no new state is produced at all;
    the `&mut` peeks keep the key order (values may be overwritten through the reference) -/
theorem peekMut_keeps_order (c : RawLru κ ν) (k : κ) (w : Option ν) :
    keys (c.peekMut k w).1.items = keys c.items := by
  rw [peekMut_fst]; exact keys_writeAt k w c.items

theorem peekLruMut_keeps_order (c : RawLru κ ν) (w : Option ν) :
    keys (c.peekLruMut w).1.items = keys c.items := by
  unfold RawLru.peekLruMut
  cases hl : c.items.getLast? with
  | none => cases w <;> rfl
  | some e =>
    cases w with
    | none => rfl
    | some w =>
      obtain ⟨ys, hys⟩ := List.getLast?_eq_some_iff.1 hl
      simp [hys, keys_append]

theorem getMruMut_keeps_order (c : RawLru κ ν) (w : Option ν) :
    keys (c.getMruMut w).1.items = keys c.items := by
  rw [getMruMut_eq]
  split
  · exact peekMut_keeps_order c _ w
  · rfl

/-- `peek_lru` / `remove_lru` name the least recent entry, `peek_mru` / `get_mru` the most recent one -/
theorem peekLru_last (c : RawLru κ ν) : c.peekLru = c.items.getLast? := rfl
theorem peekMru_head (c : RawLru κ ν) : c.peekMru = c.items.head? ∧ c.getMru = c.items.head? := ⟨rfl, rfl⟩

theorem removeLru_spec (c : RawLru κ ν) (e : κ × ν) (hl : c.items.getLast? = some e) :
    ∃ eff, c.removeLru = ({ c with items := c.items.dropLast }, some e, eff) :=
  ⟨_, removeLru_some c e hl⟩

theorem removeLru_empty (c : RawLru κ ν) (hl : c.items = []) : c.removeLru = (c, none, {}) :=
  removeLru_none c hl

/-- `resize n` discards exactly the `len - n` least recent entries, returns that count, keeps the order
    of the rest and installs `n` as the capacity (which `Inv` then enforces for every later state) -/
theorem resize_spec (c : RawLru κ ν) (n : Nat) :
    ∃ eff, c.resize n = .ok ({ c with cap := n, items := c.items.take n }, c.items.length - n, eff) ∨
      (n = c.cap ∧ c.resize n = .ok (c, 0, eff)) := by
  by_cases hne : n = c.cap
  · exact ⟨{}, Or.inr ⟨hne, by subst hne; exact resize_same c⟩⟩
  · exact ⟨_, Or.inl (RawLru.resize_spec c n hne)⟩

/-- when nothing has to go (`n = cap` short-cut) the closed form agrees as well -/
theorem resize_same_agrees (c : RawLru κ ν) (h : c.Inv) :
    ({ c with cap := c.cap, items := c.items.take c.cap } : RawLru κ ν) = c ∧ c.items.length - c.cap = 0 := by
  have := h.bound
  refine ⟨?_, by omega⟩
  cases c; simp_all [List.take_of_length_le]

/-- `purge` leaves nothing -/
theorem purge_spec (c : RawLru κ ν) : ∃ eff, c.purge = .ok ({ c with items := [] }, eff) :=
  ⟨_, RawLru.purge_spec c⟩

/-- `*_or_put`: a hit is a peek (no promotion, nothing stored), a miss is a `put` -/
theorem peekOrPut_hit (c : RawLru κ ν) (k : κ) (v cur : ν) (h : find k c.items = some cur) :
    ∃ e, c.peekOrPut k v = .ok (c, some cur, none, e) := by
  simp [RawLru.peekOrPut, h]

theorem peekOrPut_miss (c c' : RawLru κ ν) (k : κ) (v : ν) (r : PutResult κ ν) (e : Eff κ ν)
    (h : find k c.items = none) (hp : c.put k v = .ok (c', r, e)) :
    c.peekOrPut k v = .ok (c', none, some r, e) := by
  unfold RawLru.peekOrPut; simp only [h, hp]

theorem containsOrPut_hit (c : RawLru κ ν) (k : κ) (v cur : ν) (h : find k c.items = some cur) :
    ∃ e, c.containsOrPut k v = .ok (c, true, none, e) := by
  simp [RawLru.containsOrPut, h]

theorem containsOrPut_miss (c c' : RawLru κ ν) (k : κ) (v : ν) (r : PutResult κ ν) (e : Eff κ ν)
    (h : find k c.items = none) (hp : c.put k v = .ok (c', r, e)) :
    c.containsOrPut k v = .ok (c', false, some r, e) := by
  unfold RawLru.containsOrPut; simp [h, hp]

/-- non-vacuity: a concrete full cache on which the eviction theorem applies -/
example : (⟨2, [(1, 10), (2, 20)], false⟩ : RawLru Nat Nat).Inv ∧
    (⟨2, [(1, 10), (2, 20)], false⟩ : RawLru Nat Nat).put 3 30 =
      .ok (⟨2, [(3, 30), (1, 10)], false⟩, .evicted 2 20, {}) := by
  refine ⟨⟨by decide, by decide⟩, by rfl⟩

/-- **the stack (inclusion) property of LRU, over every history of uses**: after any sequence of `put` / `get` /
    `get_mut` on a plain LRU of any capacity, the cache holds exactly the first `cap` entries of the unbounded recency
    stack of the same history — the `cap` most recently used distinct keys, most recent first, each with its
    current value. (That a larger LRU contains a smaller one run on the same history is proved for histories of
    `put`s, `lru_inclusion_puts`; with lookups the two recency stacks differ, since a lookup counts only when the key is resident.) -/
theorem lru_is_stack_prefix (cap : Nat) (cb : Bool) (c0 : RawLru κ ν) (hn : RawLru.new cap cb = some c0)
    (ops : List (LruStack.UseOp κ ν)) :
    ∃ c, runOps RawLru.step c0 (ops.map LruStack.UseOp.toRaw) = .ok c ∧
      c.items = (ops.foldl (LruStack.step cap) []).take cap := by
  obtain ⟨rfl, h0⟩ := RawLru.new_ok hn
  exact LruStack.run_prefix cap (by omega) ops _ [] rfl (by simp)

/-- the stack of a history of `put`s does not depend on the capacity -/
theorem stack_puts_cap_free (cap cap' : Nat) (ps : List (κ × ν)) (D : AL κ ν) :
    (ps.map fun e => LruStack.UseOp.put e.1 e.2).foldl (LruStack.step cap) D =
      (ps.map fun e => LruStack.UseOp.put e.1 e.2).foldl (LruStack.step cap') D := by
  induction ps generalizing D with
  | nil => rfl
  | cons e t ih => simp only [List.map_cons, List.foldl_cons, LruStack.step]; exact ih _

/-- **inclusion (no Belady anomaly)**: on the same history of `put`s a smaller plain LRU holds exactly the most
    recent part of what a larger one holds — same entries, same order, same values -/
theorem lru_inclusion_puts (cap cap' : Nat) (hle : cap ≤ cap') (cb : Bool) (c0 c0' : RawLru κ ν)
    (hn : RawLru.new cap cb = some c0) (hn' : RawLru.new cap' cb = some c0') (ps : List (κ × ν)) :
    ∃ c c', runOps RawLru.step c0 (ps.map fun e => RawOp.put e.1 e.2) = .ok c ∧
      runOps RawLru.step c0' (ps.map fun e => RawOp.put e.1 e.2) = .ok c' ∧ c.items = c'.items.take cap := by
  obtain ⟨c, h, hi⟩ := lru_is_stack_prefix cap cb c0 hn (ps.map fun e => LruStack.UseOp.put e.1 e.2)
  obtain ⟨c', h', hi'⟩ := lru_is_stack_prefix cap' cb c0' hn' (ps.map fun e => LruStack.UseOp.put e.1 e.2)
  have hm : ∀ l : List (κ × ν), (l.map fun e => LruStack.UseOp.put e.1 e.2).map LruStack.UseOp.toRaw =
      l.map fun e => RawOp.put e.1 e.2 := by
    intro l; simp only [List.map_map]; rfl
  rw [hm] at h h'
  refine ⟨c, c', h, h', ?_⟩
  rw [hi, hi', stack_puts_cap_free cap cap' ps [], List.take_take, Nat.min_eq_left hle]

example : ([LruStack.UseOp.put 1 10, .put 2 20, .get 1 none, .put 3 30, .get 2 none].foldl (LruStack.step 2) ([] : AL Nat Nat)).take 2
    = [(3, 30), (1, 10)] := by decide
end C06
