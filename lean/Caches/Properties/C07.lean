/-
  C07 — SegmentedCache follows the segmented-LRU policy.
  `SlruSpec` is the policy as the property text states it; the theorems say that on every well-formed cache
  (all capacity pairs ≥ 1, all contents) the model of the code computes exactly that, and draw the corollaries
  the property names: new keys enter probationary; a hit in probationary promotes; a hit in protected only refreshes;
  a demotion never evicts; only probationary's LRU is ever evicted for a new key; `put_protected` places the key in
  protected and nowhere else.
-/
import Caches.Lemmas.Slru
set_option linter.unusedSectionVars false
namespace C07
open M
variable {κ ν : Type} [DecidableEq κ]

theorem promote_eq_spec (s : Slru κ ν) (k : κ) (w : Option ν) (old : ν) (h : s.Inv) (hf : find k s.prob.items = some old) :
    ∃ s', s.promote k w = .ok (some old, s') ∧
      (s'.prob.items, s'.prot.items) = SlruSpec.promote s.prob.items s.prot.items s.prot.cap k (w.getD old) ∧
      s'.prob.cap = s.prob.cap ∧ s'.prot.cap = s.prot.cap :=
  ⟨_, Slru.promote_spec w h hf, rfl, rfl, rfl⟩

theorem put_eq_spec (s : Slru κ ν) (k : κ) (v : ν) (h : s.Inv) :
    ∃ r s' d, s.put k v = .ok (r, s', d) ∧
      (s'.prob.items, s'.prot.items, r) = SlruSpec.put s.prob.items s.prot.items s.prob.cap s.prot.cap k v :=
  ⟨_, _, _, Slru.put_spec h k v, rfl⟩

theorem get_eq_spec (s : Slru κ ν) (k : κ) (w : Option ν) (h : s.Inv) :
    ∃ r s', s.getMut k w = .ok (r, s') ∧
      (s'.prob.items, s'.prot.items, r) = SlruSpec.get s.prob.items s.prot.items s.prot.cap k w :=
  ⟨_, _, Slru.getMut_spec h k w, rfl⟩

/-- new keys enter the probationary segment (its most-recent end); protected is untouched -/
theorem new_enters_probationary (s : Slru κ ν) (k : κ) (v : ν) (h : s.Inv)
    (hq : find k s.prot.items = none) (hp : find k s.prob.items = none) :
    ∃ r s' d, s.put k v = .ok (r, s', d) ∧ s'.prob.items.head? = some (k, v) ∧ s'.prot.items = s.prot.items := by
  have he := SlruSpec.put_absent (pcap := s.prob.cap) (qcap := s.prot.cap) hq hp v
  exact ⟨_, _, _, Slru.put_spec h k v, by simp only [he, Slru.set]; exact head?_push .., by simp only [he, Slru.set]⟩

/-- only the least-recent probationary entry is ever evicted to admit a new key -/
theorem only_prob_lru_evicted (s : Slru κ ν) (k : κ) (v : ν) (h : s.Inv) (r : PutResult κ ν) (s' : Slru κ ν) (d : List (Obj κ ν))
    (hput : s.put k v = .ok (r, s', d)) (ek : κ) (ev : ν) (hr : r = .evicted ek ev) :
    s.prob.items.getLast? = some (ek, ev) ∧ find k s.prob.items = none ∧ find k s.prot.items = none ∧
      s'.prot.items = s.prot.items := by
  cases (Slru.put_spec h k v).symm.trans hput
  obtain ⟨ev', hr', _⟩ := SlruSpec.put_flow h.wf k v
  rw [hr] at hr'
  -- an `Evicted` result is `PutResult.of none (some _)`: the key was new, and what its push made fall out is the LRU
  cases hfk : find k (s.prob.items ++ s.prot.items) with
  | some old => rw [hfk] at hr'; cases ev' <;> cases hr'
  | none =>
    obtain ⟨hp, hq⟩ := find_append_none hfk
    simp only [SlruSpec.put_absent hq hp] at hr ⊢
    cases hd : (push s.prob.cap (k, v) s.prob.items).2 with
    | none => rw [hd] at hr; cases hr
    | some x => rw [hd] at hr; cases hr; exact ⟨getLast?_of_push hd, hp, hq, rfl⟩

/-- a demotion never evicts: `get` / `get_mut` (hit or miss) keeps exactly the same set of keys -/
theorem hit_keeps_all_keys (s : Slru κ ν) (k : κ) (w : Option ν) (h : s.Inv) (r : Option ν) (s' : Slru κ ν)
    (hg : s.getMut k w = .ok (r, s')) : ∀ x, Slru.Held s' x ↔ Slru.Held s x := by
  cases (Slru.getMut_spec h k w).symm.trans hg
  intro x
  rw [Slru.held_iff, Slru.held_iff]
  exact (SlruSpec.get_flow h.wf k w).2.1.keys_write.mem_iff

/-- a hit on a protected entry only refreshes it: probationary unchanged, the entry moves to protected's most-recent end -/
theorem hit_protected_refreshes (s : Slru κ ν) (k : κ) (v old : ν) (hq : find k s.prot.items = some old) :
    s.put k v = .ok (.update old, { s with prot := { s.prot with items := (k, v) :: erase k s.prot.items } }, [.key k]) := by
  unfold Slru.put; simp [hq, RawLru.update, use]

/-- a hit on a probationary entry promotes it to the most-recent end of protected -/
theorem hit_probationary_promotes (s : Slru κ ν) (k : κ) (w : Option ν) (old : ν) (h : s.Inv)
    (hq : find k s.prot.items = none) (hp : find k s.prob.items = some old) :
    ∃ s', s.getMut k w = .ok (some old, s') ∧ s'.prot.items.head? = some (k, w.getD old) ∧ k ∉ keys s'.prob.items := by
  have hs := Slru.getMut_spec h k w
  have hi := h.step (.getMut k w)
  obtain ⟨t, ht⟩ := SlruSpec.promote_snd s.prob.items s.prot.items s.prot.cap k (w.getD old)
  simp only [SlruSpec.step, SlruSpec.get, hq, hp] at hs hi
  exact ⟨_, hs, by simp only [Slru.set, ht]; rfl,
    fun hm => hi.disj k hm (by simp only [Slru.set, ht]; exact List.mem_cons_self ..)⟩

/-- `put_protected` places the key in the protected segment and nowhere else -/
theorem putProtected_only_protected (s : Slru κ ν) (k : κ) (v : ν) (h : s.Inv) :
    ∃ r s' d, s.putProtected k v = .ok (r, s', d) ∧ s'.Inv ∧ k ∈ keys s'.prot.items ∧ k ∉ keys s'.prob.items := by
  obtain ⟨r, d, hp⟩ := Slru.putProtected_spec h k v
  obtain ⟨ev, _, _, _, hin, hnot⟩ := SlruSpec.putProtected_flow h.wf k v
  exact ⟨r, _, d, hp, h.step (.putProtected k v), mem_keys_of_mem hin, (find_none_iff k _).1 hnot⟩

/-- the per-segment accessors behave as the plain-LRU ones on the named segment -/
theorem segment_accessors (s : Slru κ ν) :
    s.prob.peekLru = s.prob.items.getLast? ∧ s.prob.peekMru = s.prob.items.head? ∧
    s.prot.peekLru = s.prot.items.getLast? ∧ s.prot.peekMru = s.prot.items.head? := ⟨rfl, rfl, rfl, rfl⟩

/-- non-vacuity: promotion with demotion on a concrete full cache -/
example : SlruSpec.promote [(1, 10), (2, 20)] [(3, 30)] 1 2 (20 : Nat) = ([(3, 30), (1, 10)], [(2, 20)]) := by decide

/-- **`remove` = the policy** (the code looks in probationary first) -/
theorem remove_eq_spec (s : Slru κ ν) (k : κ) :
    ((s.remove k).1.prob.items, (s.remove k).1.prot.items, (s.remove k).2.1) = SlruSpec.remove s.prob.items s.prot.items k := by
  rw [(Slru.remove_spec s k).1, (Slru.remove_spec s k).2]; rfl

theorem putProtected_eq_spec (s : Slru κ ν) (k : κ) (v : ν) (h : s.Inv) :
    ∃ r s' d, s.putProtected k v = .ok (r, s', d) ∧
      (s'.prob.items, s'.prot.items) = SlruSpec.putProtected s.prob.items s.prot.items s.prot.cap k v :=
  let ⟨r, d, hp⟩ := Slru.putProtected_spec h k v; ⟨r, _, d, hp, rfl⟩

/-- **`peek_mut` (+ write) = the policy**: values change in place, nothing moves -/
theorem peekMut_eq_spec (s : Slru κ ν) (k : κ) (w : Option ν) :
    ((s.peekMut k w).1.prob.items, (s.peekMut k w).1.prot.items) = SlruSpec.peekMut s.prob.items s.prot.items k w := by
  rw [Slru.peekMut_spec]; rfl

/-- **every operation = the policy**, on every well-formed cache -/
theorem step_eq_spec (s : Slru κ ν) (o : SlruOp κ ν) (h : s.Inv) :
    ∃ s', s.step o = .ok s' ∧
      (s'.prob.items, s'.prot.items) = SlruSpec.step s.prob.cap s.prot.cap (s.prob.items, s.prot.items) o :=
  ⟨_, Slru.step_spec h o, rfl⟩

/-- **refinement over every history**: from any accepted constructor, any sequence of public operations runs
    without a fault and leaves the two segments holding exactly what the segmented-LRU policy, folded over the
    same sequence from two empty lists, says — entry by entry, in recency order -/
theorem history_eq_spec (p q : Nat) (s0 : Slru κ ν) (hn : Slru.new p q = some s0) (ops : List (SlruOp κ ν)) :
    ∃ s', runOps Slru.step s0 ops = .ok s' ∧
      (s'.prob.items, s'.prot.items) = ops.foldl (SlruSpec.step p q) ([], []) := by
  have hi := Slru.inv_new hn
  obtain ⟨rfl, -⟩ := Slru.new_ok hn
  exact ⟨_, (Slru.run_spec hi ops).1, rfl⟩

/-- non-vacuity of the history theorem: a concrete history through promotion, demotion, `put_protected`, removal -/
example : [SlruOp.put 1 10, .put 2 20, .getMut 1 none, .getMut 2 none, .putProtected 3 30, .put 4 40, .remove 2].foldl
    (SlruSpec.step 2 1) (([], []) : AL Nat Nat × AL Nat Nat) = ([(4, 40), (1, 10)], [(3, 30)]) := by decide
end C07
