/-
  C18 — a panic in user code never leads to double free or dangling nodes (model of RawLRU's primitives).

  `M.Abort` models the chain of nodes (with identities = addresses), the hash index and the set of freed
  nodes separately, and gives every operation a *site* argument: the call into user code (Hash, Eq, Clone,
  Drop, BuildHasher, callback) at which a panic unwinds. The weak invariant `WInv` is what memory safety
  needs: node ids in the chain are distinct, every index entry points at a linked, live node carrying that
  key, no linked node is freed. Theorems: `WInv` holds after every operation aborted at every site,
  *starting from any `WInv` state* (so also for the operations that follow an earlier panic), and dropping
  the cache frees no node twice. Second half (section `Own`, model `Model/AbortOwn.lean`): which keys and values the
  unwinding frames drop, hand back or leak at each site; per object `linked-after + dropped + returned + leaked =
  linked-before + passed-in` for every operation aborted anywhere, lifted to whole histories followed by the drop of
  the cache: no object is dropped twice (`no_double_drop`), no dropped object stays reachable (`dropped_not_reachable`).
  What is modelled rather than verified: unwinding itself (which locals a frame still owns at each call into user
  code, that a return value already in the return place is leaked when a parameter's destructor unwinds) and the
  behaviour of `HashMap` under a panicking `Hash`/`Eq` (lookup/remove leave the map unchanged; a failed insert leaves
  the new entry absent) — both are compared with the real code on every run (`abortcheck`: post-panic state and drop
  log of every injection into a plain LRU). Third part (section `Composite`, model `Model/AbortG.lean`): the composite
  caches with nodes in flight between lists — every operation from every invariant heap state, aborted at any user
  call, keeps the heap invariant and never uses a node primitive outside its contract.
-/
import Caches.Lemmas.AbortOwn
import Caches.Lemmas.AbortG
set_option linter.unusedSectionVars false
namespace C18
open M M.Abort
variable {κ ν : Type} [DecidableEq κ]

/-- panic-free histories stay inside the weak invariant -/
theorem strong_is_weak (w : W κ ν) (h : SInv w) : WInv w := h.toWInv

/-- `put`, aborted at any site (or completing), from any weak state -/
theorem put_winv (w : W κ ν) (k : κ) (v : ν) (fresh : Nat) (site : PutSite) (h : WInv w)
    (hfresh : fresh ∉ ids w.chain) : WInv (put w k v fresh site) := by
  have hk := (lookup_none_iff k w.index).1
  -- the victim's node comes back under the new key, its index entry gone
  have recycled {okey : κ} {i : Nat} (hl : lookup okey w.index = some i) :
      WInv { w with chain := ⟨i, k, v⟩ :: unlink i w.chain, index := unindex okey w.index } := by
    obtain ⟨n, hm, rfl, -⟩ := h.idx_in_chain _ _ (lookup_mem _ _ _ hl)
    exact h.relink hm ⟨n.id, k, v⟩ rfl (unindex_sublist _ _) (.inr (h.unindex_id hl))
  have linked := h.link ⟨fresh, k, v⟩ hfresh
  fun_cases put w k v fresh site <;> try exact h    -- the other branches return `w`
  · exact h.moved ‹_› v                                -- update
  · exact recycled ‹_›                                 -- victim recycled, `map.insert` panics
  · exact (recycled ‹_›).indexed List.mem_cons_self
      (fun hc => hk ‹_› (((unindex_sublist _ _).map _).subset hc)) (h.unindex_id ‹_›)
  · exact linked                                       -- fresh node, `map.insert` panics
  · exact linked.indexed List.mem_cons_self (hk ‹_›) fun _ hc => hfresh (h.id_linked hc)

/-- `remove`, aborted at any site, from any weak state; the freed node is no longer reachable -/
theorem remove_winv (w : W κ ν) (k : κ) (site : RemoveSite) (h : WInv w) : WInv (remove w k site) := by
  fun_cases remove w k site <;> try exact h
  exact h.unlinked (unindex_sublist _ _) (h.unindex_id ‹_›)

theorem removeLru_winv (w : W κ ν) (site : RemoveSite) (h : WInv w) : WInv (removeLru w site) := by
  rw [removeLru_eq]
  split
  · exact h
  · exact remove_winv w _ site h

theorem removeLruN_winv (w : W κ ν) (j : Nat) (h : WInv w) : WInv (removeLruN w j) := by
  induction j generalizing w with
  | zero => exact h
  | succ j ih => exact ih _ (removeLru_winv w .done h)

/-- `purge` aborted in any iteration at any site -/
theorem purge_winv (w : W κ ν) (j : Nat) (site : RemoveSite) (h : WInv w) : WInv (purge w j site) :=
  removeLru_winv _ site (removeLruN_winv w j h)

/-- `resize` aborted in any iteration at any site, in the re-hash, or completed -/
theorem resize_winv (w : W κ ν) (n j : Nat) (site : RemoveSite) (fin : Bool) (h : WInv w) : WInv (resize w n j site fin) := by
  fun_cases resize w n j site fin
  · exact h
  · exact { removeLruN_winv w _ h with }
  · exact purge_winv w j site h
  · exact removeLruN_winv w _ h

theorem get_winv (w : W κ ν) (k : κ) (site : RemoveSite) (h : WInv w) : WInv (Abort.get w k site) := by
  fun_cases Abort.get w k site <;> try exact h
  exact h.moved ‹_› _

/-- no freed node stays reachable: in every weak state the freed set is disjoint from the chain and the index -/
theorem freed_unreachable (w : W κ ν) (h : WInv w) :
    (∀ n ∈ w.chain, n.id ∉ w.freed) ∧ (∀ e ∈ w.index, e.2 ∉ w.freed) := by
  refine ⟨h.live, ?_⟩
  intro e he
  obtain ⟨n, hn, hi, _⟩ := h.idx_in_chain e.1 e.2 he
  rw [← hi]; exact h.live n hn

/-- dropping the cache (also when a `Drop` panics after `processed` entries) frees no node twice -/
theorem drop_no_double_free (w : W κ ν) (processed : Nat) (h : WInv w) (hf : w.freed.Nodup) :
    (dropCache w processed).Nodup := by
  unfold dropCache
  rw [List.nodup_append]
  refine ⟨hf, ?_, ?_⟩
  · exact List.Sublist.nodup (List.Sublist.map _ (List.take_sublist _ _)) h.idx_ids_nd
  · intro a ha b hb hab
    subst hab
    obtain ⟨e, he, rfl⟩ := List.mem_map.1 hb
    exact (freed_unreachable w h).2 e (List.mem_of_mem_take he) ha

/-- the countdown iterators take `map.len()` steps through the chain: the index never outgrows the chain -/
theorem index_le_chain (w : W κ ν) (h : WInv w) : w.index.length ≤ w.chain.length := by
  have := List.Nodup.length_le_of_subset h.idx_ids_nd fun i hi => by
    obtain ⟨e, he, rfl⟩ := List.mem_map.1 hi
    exact h.id_linked he
  simpa [ids] using this

/-- non-vacuity: a state with a linked but un-indexed node (what a panic in `map.insert` leaves) is weak, not strong -/
example : WInv ({ chain := [⟨7, 1, 10⟩, ⟨3, 2, 20⟩], index := [(2, 3)], cap := 2, freed := [] } : W Nat Nat) := by
  refine ⟨by decide, by decide, by decide, ?_, by simp⟩
  intro k i hm
  simp at hm
  obtain ⟨rfl, rfl⟩ := hm
  exact ⟨⟨3, 2, 20⟩, by simp, rfl, rfl⟩

/-! ### ownership of keys and values under abort: every object is owned exactly once

  `payload` = objects owned by linked nodes; `Fx` = what the (possibly aborted) call dropped, handed to the caller, or
  leaked (owned by nobody, never dropped). Per object: after + dropped + returned + leaked = before + passed in. -/
section Own
variable [DecidableEq ν]

def cnt (f : Fx κ ν) (o : Obj κ ν) : Nat := f.dropped.count o + f.returned.count o + f.leaked.count o

/-- `put` aborted at any site (or completing): the two arguments and the displaced pair are each accounted for once -/
theorem put_accounts (w : W κ ν) (k : κ) (v : ν) (fresh : Nat) (s : PutFx) (h : WInv w) (o : Obj κ ν) :
    (payload (put w k v fresh s.site).chain).count o + cnt (putFx w k v s) o =
      (payload w.chain).count o + ([Obj.key k, Obj.val v] : List (Obj κ ν)).count o := by
  -- `put` takes the branch `putFx` takes; where it leaves the state alone the two sides are the same sum
  fun_cases putFx w k v s <;>
    simp +zetaDelta only [put, PutFx.site_eq_lookup, PutFx.site_eq_removeOld, PutFx.site_eq_insertNew, *, if_true, if_false,
      reduceCtorEq, apply_ite W.chain, ite_self, cnt, payload_cons, objs, List.count_append, count_pair, List.count_nil,
      Nat.add_zero, Nat.zero_add]
  · have := count_unlink h.ids_nd ‹_› o; omega    -- update, the `Drop` of the surplus key panics
  · have := count_unlink h.ids_nd ‹_› o; omega    -- update
  · exact absurd ‹_› (h.nodeOf_ne_none ‹_›)        -- no node under the victim's index entry: not in a weak state
  · have := count_unlink h.ids_nd ‹_› o; omega    -- victim recycled, aborted after `mem::replace`
  · have := count_unlink h.ids_nd ‹_› o; omega    -- victim recycled
  · omega                                          -- fresh node

/-- `remove`: after a panicking callback the key is leaked (it sits in a `MaybeUninit` nobody drops), never dropped twice -/
theorem remove_accounts (w : W κ ν) (k : κ) (s : RmFx) (h : WInv w) (o : Obj κ ν) :
    (payload (remove w k s.site).chain).count o + cnt (removeFx w k s) o = (payload w.chain).count o := by
  fun_cases removeFx w k s <;>
    simp only [remove, RmFx.site_eq_lookup, *, if_true, if_false, cnt, objs, count_pair, List.count_nil, Nat.add_zero]
  · exact absurd ‹_› (h.nodeOf_ne_none ‹_›)
  all_goals have := count_unlink h.ids_nd ‹_› o; omega

theorem removeLru_accounts (w : W κ ν) (s : RmFx) (h : WInv w) (o : Obj κ ν) :
    (payload (removeLru w s.site).chain).count o + cnt (removeLruFx w s) o = (payload w.chain).count o ∧
      (removeLruFx w s).leaked = [] := by
  fun_cases removeLruFx w s <;>
    simp only [removeLru, RmFx.site_eq_lookup, *, if_true, if_false, reduceCtorEq, cnt, objs, count_pair, List.count_nil,
      Nat.add_zero, Nat.zero_add, and_true]
  · exact absurd ‹_› (h.nodeOf_ne_none ‹_›)
  all_goals have := count_unlink h.ids_nd ‹_› o; omega

/-- `j` complete loop iterations release exactly the pairs they unlink -/
theorem removeLruN_accounts (w : W κ ν) (j : Nat) (h : WInv w) (o : Obj κ ν) :
    (payload (removeLruN w j).chain).count o + (removeLruNDrops w j).count o = (payload w.chain).count o := by
  induction j generalizing w with
  | zero => rfl
  | succ j ih =>
    have h1 := removeLru_accounts w .done h o
    have h2 := ih (removeLru w .done) (removeLru_winv w .done h)
    simp only [cnt, removeLruFx_done_dropped, h1.2, RmFx.site, List.count_nil] at h1
    simp only [removeLruN, removeLruNDrops, List.count_append]
    omega

/-- `purge` aborted in any iteration at any site -/
theorem purge_accounts (w : W κ ν) (j : Nat) (s : RmFx) (h : WInv w) (o : Obj κ ν) :
    (payload (purge w j s.site).chain).count o + cnt (purgeFx w j s) o = (payload w.chain).count o := by
  have h1 := removeLruN_accounts w j h o
  obtain ⟨h2, hl⟩ := removeLru_accounts (removeLruN w j) s (removeLruN_winv w j h) o
  simp only [purge, purgeFx, cnt, hl, List.count_append, List.count_nil] at h2 ⊢
  omega

/-- `resize` aborted in any iteration at any site, in the re-hash, or completed -/
theorem resize_accounts (w : W κ ν) (n j : Nat) (s : RmFx) (fin : Bool) (h : WInv w) (o : Obj κ ν) :
    (payload (resize w n j s.site fin).chain).count o + cnt (resizeFx w n j s fin) o = (payload w.chain).count o := by
  fun_cases resize w n j s.site fin <;> simp +zetaDelta only [resizeFx, *, if_true, if_false, Bool.false_eq_true]
  · rfl
  · exact removeLruN_accounts w _ h o
  · exact purge_accounts w j s h o
  · exact removeLruN_accounts w _ h o

/-- `get` moves a node, no object changes hands -/
theorem get_accounts (w : W κ ν) (k : κ) (site : RemoveSite) (h : WInv w) (o : Obj κ ν) :
    (payload (Abort.get w k site).chain).count o = (payload w.chain).count o := by
  fun_cases Abort.get w k site <;> try rfl
  rw [payload_cons, List.count_append, payload_unlink _ _ _ h.ids_nd ‹_› o, Nat.add_comm]

/-- `Drop for RawLRU` (also when a key's or value's `Drop` panics part-way): it drops objects of distinct linked nodes
    only, so nothing that is not owned by the list, and nothing twice; the rest leaks -/
theorem drop_accounts (w : W κ ν) (p : Nat) (panicIn : Option Bool) (h : WInv w) (o : Obj κ ν) :
    (dropFx w p panicIn).count o ≤ (payload w.chain).count o := by
  have hnd : ((w.index.take (p + 1)).map (·.2)).Nodup :=
    List.Sublist.nodup (List.Sublist.map _ (List.take_sublist _ _)) h.idx_ids_nd
  -- what is dropped is part of what the nodes named by the first `p + 1` index entries own
  refine Nat.le_trans (List.Sublist.count_le o ?_) (payload_select w.chain h.ids_nd _ hnd o)
  unfold dropFx
  rw [List.filterMap_map, List.take_add_one, List.filterMap_append, payload_append, List.head?_drop]
  refine List.Sublist.append_left ?_ _
  -- what the entry whose `Drop` panics loses belongs to the node it names
  rcases panicIn with _ | b <;> rcases w.index[p]? with _ | e <;> try exact List.nil_sublist _
  simp only [Option.toList_some, List.filterMap_cons, List.filterMap_nil, Function.comp]
  cases nodeOf e.2 w.chain with
  | none => exact .refl _
  | some n => cases b <;> simp [payload, objs]

/-! #### whole histories: any sequence of calls, each aborted at any site or completing, then the drop of the cache -/

/-- one call of a history together with the site at which it is aborted (`done` = it completes) -/
inductive Call (κ ν : Type)
  | put (k : κ) (v : ν) (fresh : Nat) (s : PutFx)
  | remove (k : κ) (s : RmFx)
  | removeLru (s : RmFx)
  | purge (j : Nat) (s : RmFx)
  | resize (n j : Nat) (s : RmFx) (fin : Bool)
  | get (k : κ) (site : RemoveSite)

def Call.next (w : W κ ν) : Call κ ν → W κ ν
  | .put k v fresh s => Abort.put w k v fresh s.site
  | .remove k s => Abort.remove w k s.site
  | .removeLru s => Abort.removeLru w s.site
  | .purge j s => Abort.purge w j s.site
  | .resize n j s fin => Abort.resize w n j s.site fin
  | .get k site => Abort.get w k site

def Call.fx (w : W κ ν) : Call κ ν → Fx κ ν
  | .put k v _ s => putFx w k v s
  | .remove k s => removeFx w k s
  | .removeLru s => removeLruFx w s
  | .purge j s => purgeFx w j s
  | .resize n j s fin => resizeFx w n j s fin
  | .get _ _ => {}

/-- the objects the caller passes in -/
def Call.inputs : Call κ ν → List (Obj κ ν)
  | .put k v _ _ => [Obj.key k, Obj.val v]
  | _ => []

/-- the allocator hands out an address that is not the address of a linked node -/
def Call.ok (w : W κ ν) : Call κ ν → Prop
  | .put _ _ fresh _ => fresh ∉ ids w.chain
  | _ => True

def Valid (w : W κ ν) : List (Call κ ν) → Prop
  | [] => True
  | c :: cs => c.ok w ∧ Valid (c.next w) cs

def final (w : W κ ν) : List (Call κ ν) → W κ ν
  | [] => w
  | c :: cs => final (c.next w) cs

/-- everything the calls of the history dropped (by unwinding or normally) -/
def droppedBy (w : W κ ν) : List (Call κ ν) → List (Obj κ ν)
  | [] => []
  | c :: cs => (c.fx w).dropped ++ droppedBy (c.next w) cs
/-- everything handed back to the caller or leaked -/
def releasedBy (w : W κ ν) : List (Call κ ν) → List (Obj κ ν)
  | [] => []
  | c :: cs => (c.fx w).returned ++ (c.fx w).leaked ++ releasedBy (c.next w) cs
def inputsOf : List (Call κ ν) → List (Obj κ ν)
  | [] => []
  | c :: cs => c.inputs ++ inputsOf cs

theorem call_winv (w : W κ ν) (c : Call κ ν) (h : WInv w) (hok : c.ok w) : WInv (c.next w) := by
  cases c with
  | put k v fresh s => exact put_winv w k v fresh s.site h hok
  | remove k s => exact remove_winv w k s.site h
  | removeLru s => exact removeLru_winv w s.site h
  | purge j s => exact purge_winv w j s.site h
  | resize n j s fin => exact resize_winv w n j s.site fin h
  | get k site => exact get_winv w k site h

theorem call_accounts (w : W κ ν) (c : Call κ ν) (h : WInv w) (o : Obj κ ν) :
    (payload (c.next w).chain).count o + cnt (c.fx w) o = (payload w.chain).count o + c.inputs.count o := by
  cases c with
  | put k v fresh s => exact put_accounts w k v fresh s h o
  | remove k s => exact remove_accounts w k s h o
  | removeLru s => exact (removeLru_accounts w s h o).1
  | purge j s => exact purge_accounts w j s h o
  | resize n j s fin => exact resize_accounts w n j s fin h o
  | get k site => exact get_accounts w k site h o

/-- every history of calls, each aborted anywhere: the weak invariant holds at the end and every object that ever
    entered is in exactly one place — still linked, dropped, or released (handed back / leaked) -/
theorem history_accounts (w : W κ ν) (cs : List (Call κ ν)) (h : WInv w) (hv : Valid w cs) (o : Obj κ ν) :
    WInv (final w cs) ∧
    (payload (final w cs).chain).count o + (droppedBy w cs).count o + (releasedBy w cs).count o =
      (payload w.chain).count o + (inputsOf cs).count o := by
  induction cs generalizing w with
  | nil => exact ⟨h, rfl⟩
  | cons c cs ih =>
    obtain ⟨hf, hc⟩ := ih (c.next w) (call_winv w c h hv.1) hv.2
    have ha := call_accounts w c h o
    refine ⟨hf, ?_⟩
    simp only [final, droppedBy, releasedBy, inputsOf, List.count_append, cnt] at ha ⊢
    omega

/-- from a state with nothing linked and nothing indexed, every object is linked, dropped or released as often as it was
    passed in -/
theorem life_accounts (w : W κ ν) (hc : w.chain = []) (hi : w.index = []) (cs : List (Call κ ν)) (hv : Valid w cs)
    (o : Obj κ ν) :
    WInv (final w cs) ∧
      (payload (final w cs).chain).count o + (droppedBy w cs).count o + (releasedBy w cs).count o =
        (inputsOf cs).count o := by
  have h0 : WInv w := by
    cases w; cases hc; cases hi
    exact ⟨List.nodup_nil, List.nodup_nil, List.nodup_nil, nofun, nofun⟩
  simpa only [hc, payload_nil, List.count_nil, Nat.zero_add] using history_accounts w cs h0 hv o

/-- **No key or value is dropped twice** — over a whole life of the cache: it starts empty, any calls follow, each
    aborted by a panic at any site or completing; finally the cache is dropped (its `Drop` may be cut short by a
    panicking destructor as well). If the caller never passes the same object twice (objects are tokens: `Nodup`),
    then the list of all drops the library performs has no duplicate, and it contains only objects that were passed in. -/
theorem no_double_drop (cap : Nat) (cs : List (Call κ ν)) (p : Nat) (panicIn : Option Bool)
    (hv : Valid ({ chain := [], index := [], cap := cap, freed := [] } : W κ ν) cs) (hin : (inputsOf cs).Nodup) :
    let w0 : W κ ν := { chain := [], index := [], cap := cap, freed := [] }
    (droppedBy w0 cs ++ dropFx (final w0 cs) p panicIn).Nodup ∧
      ∀ o ∈ droppedBy w0 cs ++ dropFx (final w0 cs) p panicIn, o ∈ inputsOf cs := by
  intro w0
  have key (o) : (droppedBy w0 cs ++ dropFx (final w0 cs) p panicIn).count o ≤ (inputsOf cs).count o := by
    obtain ⟨hf, hc⟩ := life_accounts w0 rfl rfl cs hv o
    have hd := drop_accounts (final w0 cs) p panicIn hf o
    rw [List.count_append]
    omega
  refine ⟨List.nodup_iff_count.2 fun o => Nat.le_trans (key o) (List.nodup_iff_count.1 hin o), fun o ho => ?_⟩
  exact List.count_pos_iff.1 (Nat.lt_of_lt_of_le (List.count_pos_iff.2 ho) (key o))

/-- **No dropped key or value stays reachable**: at every point of such a life, an object the library has already
    dropped (or handed back, or leaked) is not owned by any linked node — iterators and peeks cannot hand it out -/
theorem dropped_not_reachable (cap : Nat) (cs : List (Call κ ν))
    (hv : Valid ({ chain := [], index := [], cap := cap, freed := [] } : W κ ν) cs) (hin : (inputsOf cs).Nodup) :
    let w0 : W κ ν := { chain := [], index := [], cap := cap, freed := [] }
    ∀ o ∈ droppedBy w0 cs ++ releasedBy w0 cs, o ∉ payload (final w0 cs).chain := by
  intro w0 o ho hp
  obtain ⟨-, hc⟩ := life_accounts w0 rfl rfl cs hv o
  have h1 := List.count_pos_iff.2 ho
  have h2 := List.count_pos_iff.2 hp
  have h3 := List.nodup_iff_count.1 hin o
  rw [List.count_append] at h1
  omega

/-- non-vacuity: a put whose `map.insert` panics (node linked, not indexed), then a completed put that evicts nothing,
    then a `remove` whose callback panics (key leaked) — a valid history over distinct tokens -/
example : Valid ({ chain := [], index := [], cap := 2, freed := [] } : W Nat Nat)
      [.put 1 10 100 .insertNew, .put 2 20 101 .done, .remove 2 .callback] ∧
    (inputsOf ([.put 1 10 100 .insertNew, .put 2 20 101 .done, .remove 2 .callback] : List (Call Nat Nat))).Nodup := by
  refine ⟨⟨by simp [Call.ok, ids], by simp [Call.ok, Call.next, Abort.put, PutFx.site, lookup, ids], trivial, trivial⟩, by decide⟩
end Own

/-! ### the composite caches: nodes in flight between lists while user code runs

  Model `Model/AbortG.lean`: one heap of nodes shared by the lists of a cache, each node tagged with the list it is
  linked in or `flight` (detached: referenced only by a local of the running operation, or leaked by an earlier
  unwind); the crate-internal primitives check their own contract and raise the ghost flag `fault` (undefined
  behaviour) when it is violated; a tick counter lets `t` calls into user code return and makes the next one panic.
  `AG.Inv` is the weak invariant over the whole heap: node ids distinct (so no node is in two lists, or in a list and
  owned by a frame), every index entry of list `c` names a node linked in list `c` with that key, `fault = false`.
  Every operation in `COp` — `put`, `get`, `remove`, `purge` of SegmentedCache (and its `put_protected`), TwoQueueCache,
  AdaptiveCache and WTinyLFUCache, and `put`, `get`, `remove`, `remove_lru`, `purge` and a lookup of RawLRU on one of
  their lists — started in ANY invariant state (in particular one left behind by an earlier panic) and aborted at ANY
  tick or completing, ends in an invariant state: no primitive is ever used outside its contract (no node linked twice,
  none freed twice or while linked, no sentinel read as an entry). -/
section Composite
open M.AG

theorem composite_op_safe (op : COp κ ν) (t : Nat) (g : G κ ν) (h : AG.Inv g) :
    AG.Inv (op.runAt t g) ∧ (op.runAt t g).fault = false :=
  ⟨runAt_inv op t g h, (runAt_inv op t g h).nofault⟩

/-- any history of operations, each with a panic injected at an arbitrary call into user code (or none): the
    invariant holds throughout and no primitive is ever used outside its contract -/
theorem composite_history_safe (ops : List (COp κ ν × Nat)) (g : G κ ν) (h : AG.Inv g) :
    AG.Inv (ops.foldl (fun g o => o.1.runAt o.2 g) g) ∧ (ops.foldl (fun g o => o.1.runAt o.2 g) g).fault = false :=
  ⟨history_inv ops g h, (history_inv ops g h).nofault⟩

/-- dropping the cache after any such history (each list drains its index and unboxes what it finds): no node is
    unboxed twice, and every unboxed node is live and linked in the list that unboxes it -/
theorem composite_drop_safe (ops : List (COp κ ν × Nat)) (g : G κ ν) (h : AG.Inv g) (cs : List Nat) (hcs : cs.Nodup) :
    let g' := ops.foldl (fun g o => o.1.runAt o.2 g) g
    (dropAll g' cs).Nodup ∧ ∀ c i, i ∈ (g'.idx c).map (·.2) → Has g' i (.inL c) := by
  have hI := history_inv ops g h
  exact ⟨dropAll_nodup hI cs hcs, fun c i hi => dropAll_live hI c i hi⟩

/-- what the invariant buys (1): a node is in at most one place — two lists never share a node, and a node owned by
    a frame is in no list -/
theorem node_in_one_place (g : G κ ν) (h : AG.Inv g) (i : Nat) (t t' : Tag) (h1 : Has g i t) (h2 : Has g i t') : t = t' :=
  Has.tag_unique h h1 h2

/-- what the invariant buys (2): every index entry points at a live node linked in its own list and carrying the
    indexed key — no dangling `KeyRef`, no dangling node pointer -/
theorem index_entries_live (g : G κ ν) (h : AG.Inv g) (c : Nat) (k : κ) (i : Nat) (hm : (k, i) ∈ g.idx c) :
    ∃ e ∈ chain g c, e.id = i ∧ e.key = k :=
  h.idx_chain hm

/-- non-vacuity: a TwoQueueCache `put` into a full cache whose `recent.put_nonnull(new)` panics while hashing leaves
    the new node linked in `recent` but not indexed, and the victim it had already taken out leaked in flight — a weak
    state; the invariant holds there and the history goes on (the next `put` links a second node into `recent`) -/
example :
    let g0 : G Nat Nat := emptyG (fun _ => 1)
    let ops : List (COp Nat Nat × Nat) :=
      [(.twoqPut ⟨1, 1⟩ 1 10, 100), (.twoqPut ⟨1, 1⟩ 2 20, 4), (.twoqPut ⟨1, 1⟩ 3 30, 100)]
    let g := ops.foldl (fun g o => o.1.runAt o.2 g) g0
    g.fault = false ∧ (g.pool.map (·.id)).length = 3 := by
  decide
end Composite

end C18
