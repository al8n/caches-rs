/- C13 — read-only operations never change what later operations return.
   In the model the pure read-only entry points (`peek`, `contains`, `len`, `cap`, `is_empty`, `peek_lru`, `peek_mru`,
   `get_mru`, iterator construction and stepping, `Debug`) are functions that return an answer and *no* state, so the
   state after them is the state before them by construction; the `&mut`-taking ones are proved here. -/
import Caches.Model.Api
set_option linter.unusedSectionVars false
namespace C13
open M
variable {κ ν : Type} [DecidableEq κ]

theorem rawlru_peekMut_nowrite (c : RawLru κ ν) (k : κ) : (c.peekMut k none).1 = c := by
  unfold RawLru.peekMut; cases find k c.items <;> rfl
theorem rawlru_peekLruMut_nowrite (c : RawLru κ ν) : (c.peekLruMut none).1 = c := by
  unfold RawLru.peekLruMut; cases c.items.getLast? <;> rfl
theorem rawlru_getMruMut_nowrite (c : RawLru κ ν) : (c.getMruMut none).1 = c ∧ (c.peekMruMut none).1 = c := by
  unfold RawLru.peekMruMut RawLru.getMruMut; cases c.items <;> exact ⟨rfl, rfl⟩
/-- a hit of `*_or_put` leaves the state alone -/
theorem rawlru_orput_hit (c : RawLru κ ν) (k : κ) (v cur : ν) (h : find k c.items = some cur) :
    (∃ e, c.peekOrPut k v = .ok (c, some cur, none, e)) ∧ (∃ e, c.peekMutOrPut k v none = .ok (c, some cur, none, e)) ∧
    (∃ e, c.containsOrPut k v = .ok (c, true, none, e)) := by
  refine ⟨?_, ?_, ?_⟩ <;> simp [RawLru.peekOrPut, RawLru.peekMutOrPut, RawLru.containsOrPut, h]
/-! ## composites: `peek_mut` without a write is the identity on the whole state (estimator included) -/

theorem slru_peekMut_nowrite (s : Slru κ ν) (k : κ) : (s.peekMut k none).1 = s := by
  unfold Slru.peekMut RawLru.peekMut
  cases find k s.prot.items <;> cases find k s.prob.items <;> rfl

theorem twoq_peekMut_nowrite (q : TwoQ κ ν) (k : κ) : (q.peekMut k none).1 = q := by
  unfold TwoQ.peekMut RawLru.peekMut
  cases find k q.frequent.items <;> cases find k q.recent.items <;> rfl

theorem arc_peekMut_nowrite (a : Arc κ ν) (k : κ) : (a.peekMut k none).1 = a := by
  unfold Arc.peekMut RawLru.peekMut
  cases find k a.recent.items <;> cases find k a.frequent.items <;> rfl

/-- W-TinyLFU: window, both segments **and the frequency estimator** are untouched -/
theorem wtinylfu_peekMut_nowrite (c : WTinyLfu κ ν) (k : κ) : (c.peekMut k none).1 = c := by
  unfold WTinyLfu.peekMut RawLru.peekMut
  cases find k c.window.items with
  | some v => rfl
  | none => simp only [slru_peekMut_nowrite]

/-! ## interleaving: deleting every read-only call from a history changes no later state, for any history.
    Every return value, eviction choice and iteration order of a later call is a function of the state it runs on,
    so equal states give equal later results. -/

/-- generic: if the read-only operations are identities, a history and the same history with all of them removed
    end in the same state (or the same fault) -/
theorem runOps_skip_readonly {σ ω : Type} (step : σ → ω → Res σ) (ro : ω → Bool)
    (hro : ∀ s o, ro o = true → step s o = .ok s) (ops : List ω) (s : σ) :
    runOps step s ops = runOps step s (ops.filter (fun o => !ro o)) := by
  induction ops generalizing s with
  | nil => rfl
  | cons o rest ih =>
    by_cases h : ro o = true
    · simp only [runOps, hro s o h, List.filter, h, Bool.not_true]; exact ih s
    · have h' := eq_false_of_ne_true h
      simp only [List.filter, h', Bool.not_false, runOps]
      cases step s o with
      | error f => rfl
      | ok s' => exact ih s'

def rawRO : RawOp κ ν → Bool
  | .read | .peekMut _ none | .peekLruMut none | .peekMruMut none | .getMruMut none => true
  | _ => false
def slruRO : SlruOp κ ν → Bool
  | .read | .peekMut _ none => true
  | _ => false
def cacheRO : CacheOp κ ν → Bool
  | .read | .peekMut _ none => true
  | _ => false

theorem rawlru_interleave (c : RawLru κ ν) (ops : List (RawOp κ ν)) :
    runOps RawLru.step c ops = runOps RawLru.step c (ops.filter (fun o => !rawRO o)) := by
  refine runOps_skip_readonly _ _ (fun s o h => ?_) ops c
  unfold rawRO at h
  split at h
  · rfl
  · exact congrArg _ (rawlru_peekMut_nowrite s _)
  · exact congrArg _ (rawlru_peekLruMut_nowrite s)
  · exact congrArg _ (rawlru_getMruMut_nowrite s).2
  · exact congrArg _ (rawlru_getMruMut_nowrite s).1
  · cases h

theorem slruRO_iff (o : SlruOp κ ν) : slruRO o = true ↔ o = .read ∨ ∃ k, o = .peekMut k none := by
  cases o with
  | peekMut k w => cases w <;> simp [slruRO]
  | _ => simp [slruRO]

theorem cacheRO_iff (o : CacheOp κ ν) : cacheRO o = true ↔ o = .read ∨ ∃ k, o = .peekMut k none := by
  cases o with
  | peekMut k w => cases w <;> simp [cacheRO]
  | _ => simp [cacheRO]

theorem slru_interleave (s : Slru κ ν) (ops : List (SlruOp κ ν)) :
    runOps Slru.step s ops = runOps Slru.step s (ops.filter (fun o => !slruRO o)) :=
  runOps_skip_readonly _ _ (fun s o h => by
    rcases (slruRO_iff o).1 h with rfl | ⟨k, rfl⟩
    · rfl
    · exact congrArg Except.ok (slru_peekMut_nowrite s k)) ops s

theorem twoq_interleave (q : TwoQ κ ν) (ops : List (CacheOp κ ν)) :
    runOps TwoQ.step q ops = runOps TwoQ.step q (ops.filter (fun o => !cacheRO o)) :=
  runOps_skip_readonly _ _ (fun s o h => by
    rcases (cacheRO_iff o).1 h with rfl | ⟨k, rfl⟩
    · rfl
    · exact congrArg Except.ok (twoq_peekMut_nowrite s k)) ops q

theorem arc_interleave (a : Arc κ ν) (ops : List (CacheOp κ ν)) :
    runOps Arc.step a ops = runOps Arc.step a (ops.filter (fun o => !cacheRO o)) :=
  runOps_skip_readonly _ _ (fun s o h => by
    rcases (cacheRO_iff o).1 h with rfl | ⟨k, rfl⟩
    · rfl
    · exact congrArg Except.ok (arc_peekMut_nowrite s k)) ops a

theorem wtinylfu_interleave (kh : κ → UInt64) (c : WTinyLfu κ ν) (ops : List (CacheOp κ ν)) :
    runOps (WTinyLfu.step kh) c ops = runOps (WTinyLfu.step kh) c (ops.filter (fun o => !cacheRO o)) :=
  runOps_skip_readonly _ _ (fun s o h => by
    rcases (cacheRO_iff o).1 h with rfl | ⟨k, rfl⟩
    · rfl
    · exact congrArg Except.ok (wtinylfu_peekMut_nowrite s k)) ops c

example : runOps RawLru.step (⟨2, [(1, 10)], false⟩ : RawLru Nat Nat) [.peekMut 1 none, .put 2 20, .read, .peekLruMut none]
        = runOps RawLru.step ⟨2, [(1, 10)], false⟩ [.put 2 20] := rfl
end C13
