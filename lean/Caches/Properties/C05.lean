/-
  C05 — totality: constructors validate, and no operation ever panics.

  In the model every `unwrap()`, every read of a sentinel as an entry, every slice index and every checked arithmetic
  operation of the Rust source is an explicit `Fault` (nothing is totalised). The theorems below say that from every
  successfully constructed cache, and from every cleared well-formed estimator, every finite history of operations returns `.ok`
  (no `Fault` is reachable), for every capacity, quota, key, raw hash, sample size and sketch geometry,
  and that constructors reject exactly the documented argument tuples.
  Out of reach, stated: allocation failure, `i64`/`usize` overflow of running counters; the Bloom/sketch geometry
  computed in `f64` enters as any well-formed tuple (`TinyLfu.WF`, checked on every real configuration by the driver
  through `TinyLfu.wfb`); the rows of the sketch fit its mask for every requested width that is a `u64` (`sketch_geometry`).
-/
import Caches.Lemmas.RawStep
import Caches.Lemmas.TwoQ
import Caches.Lemmas.Arc
import Caches.Lemmas.WTinyLfu
import Caches.Properties.C11
set_option linter.unusedSectionVars false
set_option linter.unusedVariables false
namespace C05
open M
variable {κ ν : Type} [DecidableEq κ]

theorem rawlru_ctor (cap : Nat) (cb : Bool) : ((RawLru.new cap cb : Option (RawLru κ ν)) = none ↔ cap = 0) := by
  unfold RawLru.new; split <;> simp_all

theorem slru_ctor (p q : Nat) : ((Slru.new p q : Option (Slru κ ν)) = none ↔ p = 0 ∨ q = 0) := by
  unfold Slru.new
  by_cases hq : q = 0 <;> by_cases hp : p = 0 <;> simp [hq, hp]

theorem arc_ctor (size : Nat) : ((Arc.new size : Option (Arc κ ν)) = none ↔ size = 0) := by
  unfold Arc.new; split <;> simp_all

/-- 2Q: `InvalidSize` for size 0 or a ghost bound that floors to 0, `InvalidRecentRatio` / `InvalidGhostRatio` for ratios outside
    [0,1] or NaN (checked in this order); accepted otherwise -/
theorem twoq_ctor (size : Nat) (rr gr : RatioClass) (rs es : Nat) :
    (TwoQ.new size rr gr rs es : Except TwoQErr (TwoQ κ ν)) =
      if size = 0 then .error .invalidSize
      else if rr.inUnit = false then .error .invalidRecentRatio
      else if gr.inUnit = false then .error .invalidGhostRatio
      else if es = 0 then .error .invalidSize
      else .ok { size := size, rs := rs, recent := { cap := size, items := [] },
                 frequent := { cap := size, items := [] }, ghost := { cap := es, items := [] } } := by
  unfold TwoQ.new
  by_cases h1 : size = 0 <;> by_cases h2 : rr.inUnit <;> by_cases h3 : gr.inUnit <;> by_cases h4 : es = 0 <;> simp [h1, h2, h3, h4]

/-- an accepted configuration gives every internal list exactly the requested capacity — for every size, also beyond any
    power of two one might clamp at (compared with the real lists' capacities by the `innercaps` operation) -/
theorem rawlru_ctor_caps (cap : Nat) (cb : Bool) (c : RawLru κ ν) (h : RawLru.new cap cb = some c) :
    c.cap = cap ∧ c.items = [] := by
  obtain ⟨rfl, -⟩ := RawLru.new_ok h
  exact ⟨rfl, rfl⟩

theorem slru_ctor_caps (p q : Nat) (s : Slru κ ν) (h : Slru.new p q = some s) :
    s.prob.cap = p ∧ s.prot.cap = q ∧ s.prob.items = [] ∧ s.prot.items = [] := by
  obtain ⟨rfl, -⟩ := Slru.new_ok h
  exact ⟨rfl, rfl, rfl, rfl⟩

theorem arc_ctor_caps (size : Nat) (a : Arc κ ν) (h : Arc.new size = some a) :
    a.recent.cap = size ∧ a.frequent.cap = size ∧ a.recentEvict.cap = size ∧ a.frequentEvict.cap = size ∧ a.p = 0 := by
  obtain ⟨rfl, -⟩ := Arc.new_ok h
  exact ⟨rfl, rfl, rfl, rfl, rfl⟩

theorem sketch_ctor (ctrs : Nat) (sch : Scheme) : (Sketch.new ctrs sch = none ↔ ctrs = 0) := by
  unfold Sketch.new; split <;> simp_all <;> omega

theorem rawlru_total (cap : Nat) (cb : Bool) (c0 : RawLru κ ν) (hc : RawLru.new cap cb = some c0) (ops : List (RawOp κ ν)) :
    ∃ c, runOps RawLru.step c0 ops = .ok c :=
  let ⟨c, h, _⟩ := runOps_inv RawLru.step RawLru.Inv RawLru.step_inv ops c0 (RawLru.inv_new hc); ⟨c, h⟩

/-- `resize` to any value (0 included) followed by anything -/
theorem rawlru_total_from_inv (c0 : RawLru κ ν) (h : c0.Inv) (ops : List (RawOp κ ν)) :
    ∃ c, runOps RawLru.step c0 ops = .ok c ∧ c.Inv := runOps_inv RawLru.step RawLru.Inv RawLru.step_inv ops c0 h

/-- `from_iter`: capacity `max 1 hint`, never a fault, for every input including the empty one -/
theorem fromIter_total (hint : Nat) (l : AL κ ν) : ∃ c e, RawLru.fromIter hint l = .ok (c, e) := by
  unfold RawLru.fromIter RawLru.new
  have : max 1 hint ≠ 0 := by omega
  simp only [this, if_false]
  obtain ⟨c, e, h, -⟩ := RawLru.refill_inv l ⟨max 1 hint, [], false⟩ {} ⟨List.nodup_nil, Nat.zero_le _⟩
  exact ⟨c, e, h⟩

theorem slru_total (p q : Nat) (s0 : Slru κ ν) (hc : Slru.new p q = some s0) (ops : List (SlruOp κ ν)) :
    ∃ s, runOps Slru.step s0 ops = .ok s :=
  ⟨_, (Slru.run_spec (Slru.inv_new hc) ops).1⟩

/-- 2Q: every accepted configuration — every size ≥ 1, every quota `rs` (0 and `= size` included), every ghost bound ≥ 1 -/
theorem twoq_total (size : Nat) (rr gr : RatioClass) (rs es : Nat) (q0 : TwoQ κ ν)
    (hc : TwoQ.new size rr gr rs es = .ok q0) (ops : List (CacheOp κ ν)) : ∃ q, runOps TwoQ.step q0 ops = .ok q :=
  ⟨_, (TwoQ.run_spec (TwoQ.inv_new hc) ops).1⟩

theorem arc_total (size : Nat) (a0 : Arc κ ν) (hc : Arc.new size = some a0) (ops : List (CacheOp κ ν)) :
    ∃ a, runOps Arc.step a0 ops = .ok a :=
  ⟨_, (Arc.run_spec a0 a0.lists (Arc.inv_new hc) ops).1⟩

/-- W-TinyLFU: every capacity triple ≥ 1, every well-formed estimator, every key hasher (any 64-bit hashes) -/
theorem wtinylfu_total (kh : κ → UInt64) (c0 : WTinyLfu κ ν) (h0 : c0.Inv) (ops : List (CacheOp κ ν)) :
    ∃ c, runOps (WTinyLfu.step kh) c0 ops = .ok c :=
  ⟨_, (WTinyLfu.run_spec kh h0 ops).1⟩

/-- TinyLFU: every raw hash (0 and `u64::MAX` included), both position schemes, every sample size -/
theorem tinylfu_total (ops : List C11.Op) (t : TinyLfu) (hwf : t.WF) :
    ∃ t', C11.runT t.clear ops = .ok t' ∧ t'.WF :=
  let ⟨t', h, hw, _⟩ := C11.sim_from_clear ops t hwf; ⟨t', h, hw⟩

theorem tinylfu_queries_total (t : TinyLfu) (hwf : t.WF) (a b : UInt64) (c : TinyLfu.Cmp) :
    (∃ e, t.estimate a = .ok e) ∧ (∃ r, t.contains a = .ok r) ∧ (∃ r, t.compare c a b = .ok r) := by
  obtain ⟨e, bb, he, _⟩ := TinyLfu.estimate_spec t hwf a
  obtain ⟨r, hr, _⟩ := TinyLfu.contains_spec t hwf a
  exact ⟨⟨_, he⟩, ⟨_, hr⟩, TinyLfu.compare_total t hwf c a b⟩

/-- the count-min sketch built for ANY requested width `1 ≤ ctrs < 2^64` (`next_power_of_2`, repaired to smear all 64 bits)
    has four rows, each long enough for every position its mask lets through: the row part of `Sketch.WF` holds by
    construction, not by inspection of the built value -/
theorem sketch_geometry (ctrs : Nat) (sch : Scheme) (h1 : 1 ≤ ctrs) (h2 : ctrs < 2 ^ 64) :
    ∃ s, Sketch.new ctrs sch = some s ∧ s.rows.length = 4 ∧ s.scheme = sch ∧
      ∀ r ∈ s.rows, Row.WF r ∧ s.mask.toNat / 2 < r.length := Sketch.new_geometry ctrs sch h1 h2

/-- sketch and Bloom indices stay in bounds: the row index of every masked position is inside the row,
    the word index of every probe is inside the bitset -/
theorem sketch_index_in_bounds (s : Sketch) (hwf : s.WF) (i : Nat) (hi : i < s.rows.length) (h : UInt64) (r : Row)
    (hr : s.rows[i]? = some r) : s.posN i h / 2 < r.length := by
  have hp := Sketch.posN_le s i h
  have := (hwf.rowsWF r (List.mem_of_getElem? hr)).2
  exact Nat.lt_of_le_of_lt (Nat.div_le_div_right hp) this

theorem bloom_index_in_bounds (b : Bloom) (hwf : b.WF) (hash : UInt64) (i : Nat) (hi : i < b.setLocs) :
    b.index (b.hl hash).1 (b.hl hash).2 i = .ok (b.idxOf hash i) ∧ (b.idxOf hash i) >>> 6 < b.bits.length :=
  Bloom.index_ok b hwf hash i hi

/-- the no_std position function `(h + i·(h >> 32)) & mask` is computed with wrapping arithmetic and is always `≤ mask` -/
theorem core_pos_total (mask : UInt64) (i : Nat) (h : UInt64) :
    ∃ p, Scheme.core.pos mask i h = .ok p ∧ p ≤ mask.toNat := by
  exact ⟨_, rfl, Scheme.pos_le (sch := .core) (i := i) (h := h) rfl⟩

example : ∃ c, runOps RawLru.step (⟨2, [], false⟩ : RawLru Nat Nat) [.put 1 1, .resize 0, .put 2 2, .peekOrPut 3 3] = .ok c :=
  ⟨_, rfl⟩
end C05
