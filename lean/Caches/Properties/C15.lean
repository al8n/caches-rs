/- C15 — eviction callback (RawLRU): `Eff.cbs` of every operation = the departing entries, in leaving order,
   with their current values; nothing for updates, reads, hits of `*_or_put`; nothing at all without a callback. -/
import Caches.Lemmas.RawStep
set_option linter.unusedSectionVars false
namespace C15
open M M.RawLru
variable {κ ν : Type} [DecidableEq κ]

/-- `put`: exactly one call, for the evicted least-recent entry, and only when the cache was full;
    none for an update, a plain insert, or the hand-back at capacity 0 -/
theorem put_cbs (c c' : RawLru κ ν) (k : κ) (v : ν) (r : PutResult κ ν) (e : Eff κ ν)
    (hp : c.put k v = .ok (c', r, e)) :
    e.cbs = (if find k c.items = none ∧ c.cap ≠ 0 ∧ c.items.length = c.cap
             then (match c.items.getLast? with | some lru => c.cbOf lru | none => []) else []) := by
  rcases put_spec c k v with ⟨old, hf, hq⟩ | ⟨hf, h0, hq⟩ | ⟨hf, _, hne, hq⟩ | ⟨lru, hf, h0, hfull, hl, hq⟩ <;>
    (rw [hq] at hp; cases hp) <;> simp [*]

theorem cbOf_spec (c : RawLru κ ν) (e : κ × ν) : c.cbOf e = if c.hasCb then [e] else [] := rfl

/-- `remove` of a present key: one call with the key and its current value; none on a miss -/
theorem remove_cbs (c : RawLru κ ν) (k : κ) :
    (c.remove k).2.2.cbs = match find k c.items with
      | some v => c.cbOf (k, v)
      | none => [] := by
  unfold RawLru.remove; cases find k c.items <;> rfl

/-- `remove_lru`: one call for the least recent entry -/
theorem removeLru_cbs (c : RawLru κ ν) :
    (c.removeLru).2.2.cbs = match c.items.getLast? with
      | some e => c.cbOf e
      | none => [] := by
  unfold RawLru.removeLru RawLru.removeLruIn; cases c.items.getLast? <;> rfl

/-- `purge`: every entry, least recent first -/
theorem purge_cbs (c : RawLru κ ν) :
    ∃ c' e, c.purge = .ok (c', e) ∧ e.cbs = if c.hasCb then c.items.reverse else [] :=
  ⟨_, _, purge_spec c, rfl⟩

/-- `resize n`: the discarded entries (those beyond the `n` most recent), least recent first; none if nothing goes -/
theorem resize_cbs (c : RawLru κ ν) (n : Nat) :
    ∃ c' ev e, c.resize n = .ok (c', ev, e) ∧
      e.cbs = if c.hasCb ∧ n ≠ c.cap then (c.items.drop n).reverse else [] := by
  by_cases hne : n = c.cap
  · subst hne; exact ⟨_, _, _, resize_same c, by simp⟩
  · refine ⟨_, _, _, RawLru.resize_spec c n hne, ?_⟩
    simp only [goneEff]; cases c.hasCb <;> simp [hne]

/-- reads never call the callback: `get`, `get_mut`, `peek*`, `get_lru*`, `get_mru*` return no effects at all (their model
    functions have no `Eff` component); the hit branch of `*_or_put` reports none -/
theorem orput_hit_cbs (c : RawLru κ ν) (k : κ) (v cur : ν) (h : find k c.items = some cur) :
    ∃ e, c.peekOrPut k v = .ok (c, some cur, none, e) ∧ e.cbs = [] := by
  simp [RawLru.peekOrPut, h]

/-- without a callback nothing is ever logged -/
theorem no_callback_no_calls (c : RawLru κ ν) (e : κ × ν) (h : c.hasCb = false) : c.cbOf e = [] := by
  simp [RawLru.cbOf, h]

/-! ## exactly once per departing entry, never otherwise

`Departures items items' cbs`: the log has no repeated key and lists exactly the entries of `items` whose key is no
longer present in `items'` (with the value they had). Proved for `put`, `remove`, `remove_lru`, `purge` and `resize` (not for the `*_or_put`
operations, which evict on a miss through `put`), on
every well-formed cache with a callback installed; `stepCb` packages them as one step function and
`departures_every_step` lifts the statement to every state reachable by any history. -/

theorem put_exactly_departures (c c' : RawLru κ ν) (k : κ) (v : ν) (r : PutResult κ ν) (e : Eff κ ν) (h : c.Inv)
    (hcb : c.hasCb = true) (hp : c.put k v = .ok (c', r, e)) : Departures c.items c'.items e.cbs := by
  have stay : Departures c.items c.items [] := .of_perm h.nd (by simp)
  have fresh : find k c.items = none → ∀ x ∈ c.items, x.1 ≠ k :=
    fun hf x hx hc => (find_none_iff k _).1 hf (hc ▸ mem_keys_of_mem hx)
  rcases put_spec c k v with ⟨old, hf, hq⟩ | ⟨hf, h0, hq⟩ | ⟨hf, _, _, hq⟩ | ⟨lru, hf, h0, hfull, hl, hq⟩ <;>
    (rw [hq] at hp; cases hp)
  · exact stay.congr fun x _ => ((perm_erase hf).map Prod.fst).mem_iff
  · exact stay
  · exact stay.congr fun x hx => by simp [fresh hf x hx]
  · simp only [RawLru.cbOf, hcb, if_true]
    refine (Departures.of_perm (A' := c.items.dropLast) h.nd ?_).congr fun x hx => by simp [fresh hf x hx]
    rw [← Option.toList_some, ← hl, dropLast_append_getLast?_toList]

theorem remove_exactly_departures (c : RawLru κ ν) (k : κ) (h : c.Inv) (hcb : c.hasCb = true) :
    Departures c.items (c.remove k).1.items (c.remove k).2.2.cbs := by
  unfold RawLru.remove
  cases hf : find k c.items with
  | none => exact .of_perm h.nd (by simp)
  | some v =>
    simp only [RawLru.cbOf, hcb, if_true]
    exact .of_perm h.nd ((perm_erase hf).symm.trans (List.perm_append_comm (l₁ := [(k, v)])))

theorem removeLru_exactly_departures (c : RawLru κ ν) (h : c.Inv) (hcb : c.hasCb = true) :
    Departures c.items c.removeLru.1.items c.removeLru.2.2.cbs := by
  unfold RawLru.removeLru RawLru.removeLruIn
  cases hl : c.items.getLast? with
  | none => exact .of_perm h.nd (by simp)
  | some lru =>
    simp only [RawLru.cbOf, hcb, if_true]
    exact .of_perm h.nd (by rw [← Option.toList_some, ← hl, dropLast_append_getLast?_toList])

theorem purge_exactly_departures (c : RawLru κ ν) (h : c.Inv) (hcb : c.hasCb = true) :
    ∃ c' e, c.purge = .ok (c', e) ∧ Departures c.items c'.items e.cbs ∧ e.cbs = c.items.reverse := by
  refine ⟨_, _, purge_spec c, ?_, by simp [goneEff, hcb]⟩
  simp only [goneEff, hcb, if_true]
  exact .of_perm h.nd (List.reverse_perm _).symm

theorem resize_exactly_departures (c : RawLru κ ν) (n : Nat) (h : c.Inv) (hcb : c.hasCb = true) :
    ∃ c' ev e, c.resize n = .ok (c', ev, e) ∧ Departures c.items c'.items e.cbs := by
  by_cases hne : n = c.cap
  · subst hne
    exact ⟨_, _, _, resize_same c, .of_perm h.nd (by simp)⟩
  · refine ⟨_, _, _, resize_spec c n hne, ?_⟩
    simp only [goneEff, hcb, if_true]
    have := (List.reverse_perm (c.items.drop n)).symm.append_left (c.items.take n)
    rw [List.take_append_drop] at this
    exact .of_perm h.nd this

/-- one step together with its callback log (reads and in-place writes log nothing by construction) -/
def stepCb (c : RawLru κ ν) : RawOp κ ν → Res (RawLru κ ν × List (κ × ν))
  | .put k v => match c.put k v with | .error f => .error f | .ok (c', _, e) => .ok (c', e.cbs)
  | .remove k => .ok ((c.remove k).1, (c.remove k).2.2.cbs)
  | .removeLru => .ok (c.removeLru.1, c.removeLru.2.2.cbs)
  | .purge => match c.purge with | .error f => .error f | .ok (c', e) => .ok (c', e.cbs)
  | .resize n => match c.resize n with | .error f => .error f | .ok (c', _, e) => .ok (c', e.cbs)
  | .peekOrPut k v => match c.peekOrPut k v with | .error f => .error f | .ok (c', _, _, e) => .ok (c', e.cbs)
  | .peekMutOrPut k v w => match c.peekMutOrPut k v w with | .error f => .error f | .ok (c', _, _, e) => .ok (c', e.cbs)
  | .containsOrPut k v => match c.containsOrPut k v with | .error f => .error f | .ok (c', _, _, e) => .ok (c', e.cbs)
  | o => match c.step o with | .error f => .error f | .ok c' => .ok (c', [])

/-- the log of the capacity-evicting / removing operations, at every state reachable by any history of a cache built
    with a callback: exactly the departing entries, each once -/
theorem departures_every_step (cap : Nat) (c0 : RawLru κ ν) (h0 : RawLru.new cap true = some c0)
    (ops : List (RawOp κ ν)) :
    ∃ c, runOps RawLru.step c0 ops = .ok c ∧ c.hasCb = true ∧
      (∀ k v, ∃ c' log, stepCb c (.put k v) = .ok (c', log) ∧ Departures c.items c'.items log) ∧
      (∀ k, ∃ c' log, stepCb c (.remove k) = .ok (c', log) ∧ Departures c.items c'.items log) ∧
      (∃ c' log, stepCb c .removeLru = .ok (c', log) ∧ Departures c.items c'.items log) ∧
      (∃ c' log, stepCb c .purge = .ok (c', log) ∧ Departures c.items c'.items log) ∧
      (∀ n, ∃ c' log, stepCb c (.resize n) = .ok (c', log) ∧ Departures c.items c'.items log) := by
  have hcb0 : c0.hasCb = true := by rw [(RawLru.new_ok h0).1]
  obtain ⟨c, hr, hi, hcb⟩ := runOps_inv RawLru.step (fun c => c.Inv ∧ c.hasCb = true)
    (fun s o hs => let ⟨s', h1, h2, hcb, _⟩ := RawLru.step_spec s o hs.1; ⟨s', h1, h2, hcb ▸ hs.2⟩)
    ops c0 ⟨RawLru.inv_new h0, hcb0⟩
  refine ⟨c, hr, hcb, ?_, ?_, ?_, ?_, ?_⟩
  · intro k v
    obtain ⟨c', r, e, hp, _⟩ := put_total_inv c k v hi
    exact ⟨c', e.cbs, by simp only [stepCb, hp], put_exactly_departures c c' k v r e hi hcb hp⟩
  · intro k; exact ⟨_, _, rfl, remove_exactly_departures c k hi hcb⟩
  · exact ⟨_, _, rfl, removeLru_exactly_departures c hi hcb⟩
  · obtain ⟨c', e, hp, hd, _⟩ := purge_exactly_departures c hi hcb
    exact ⟨c', e.cbs, by simp only [stepCb, hp], hd⟩
  · intro n
    obtain ⟨c', ev, e, hp, hd⟩ := resize_exactly_departures c n hi hcb
    exact ⟨c', e.cbs, by simp only [stepCb, hp], hd⟩

example : ((⟨2, [(1, 10), (2, 20)], true⟩ : RawLru Nat Nat).removeLru).2.2.cbs = [(2, 20)] := by rfl
end C15
