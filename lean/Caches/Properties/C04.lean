/-
  C04 — ownership conservation: every key and value is released exactly once, none leak.

  `held l` is the list of key and value *objects* a list retains; `heldAll` of a composite cache adds up all its
  lists, ghost lists included. Every theorem is a counting equation that holds for **each** object `o`:

      #held-before + #handed-in  =  #held-after + #handed-back-in-the-result + #dropped-by-the-cache

  so nothing is dropped twice (a second drop would make the right side too big), nothing leaks (a lost object would
  make it too small) and nothing is dropped while still retained. They hold for every well-formed state — after every
  history, by the reachability theorems of C01/C05. `purge` and `Drop` release exactly everything that is held.
  The model's drop list is what the harness compares with the real drop log (serial numbers per object) and the
  allocator balance after `drop`.

  Two kinds of proof. Where a flow is at hand (a composite cache's `put`/`get` under the invariant; RawLRU's `put`, whose
  flow needs none), the equation is its counting reading (`Flow.put_count`, `Flow.get_count`: lists that hold the same
  entries hold the same objects). Elsewhere the model's code is walked with `fun_cases` and what each RawLRU primitive does
  to the objects (Lemmas/Conserve) is added up.
-/
import Caches.Lemmas.Ledger
import Caches.Lemmas.TwoQ
import Caches.Lemmas.Arc
import Caches.Lemmas.WTinyLfu
set_option linter.unusedSectionVars false
set_option linter.unusedVariables false
namespace C04
open M M.RawLru
variable {κ ν : Type} [DecidableEq κ] [DecidableEq ν]

/-! ## RawLRU -/

/-- `purge` releases everything it held: the dropped objects are exactly the retained ones (least recent first) -/
theorem rawlru_purge_releases (c : RawLru κ ν) :
    ∃ c' e, c.purge = .ok (c', e) ∧ c'.items = [] ∧ e.drops = held c.items.reverse :=
  ⟨_, _, purge_spec c, rfl, rfl⟩

/-- dropping the cache releases exactly what is retained -/
theorem rawlru_drop_releases (c : RawLru κ ν) : c.dropCache.drops = held c.items := rfl

/-- `remove` of a present key: the value is handed back, the stored key object is dropped, nothing else -/
theorem rawlru_remove_conserves (c : RawLru κ ν) (k : κ) (v : ν) (h : find k c.items = some v) :
    c.remove k = ({ c with items := erase k c.items }, some v, { cbs := c.cbOf (k, v), drops := [.key k] }) := by
  simp [RawLru.remove, h]

theorem rawlru_put_conserves (c c' : RawLru κ ν) (k : κ) (v : ν) (r : PutResult κ ν) (e : Eff κ ν)
    (hp : c.put k v = .ok (c', r, e)) (o : Obj κ ν) :
    (held c.items).count o + ([Obj.key k, Obj.val v] : List (Obj κ ν)).count o =
      (held c'.items).count o + r.drops.count o + e.drops.count o := by
  obtain ⟨ev, rfl, hf, _⟩ := put_flow hp
  rw [put_drops hp]; exact hf.put_count o

theorem rawlru_remove_counts (c : RawLru κ ν) (k : κ) (o : Obj κ ν) :
    (held c.items).count o = (held (c.remove k).1.items).count o + (objsV (c.remove k).2.1 : List (Obj κ ν)).count o +
      (c.remove k).2.2.drops.count o := RawLru.remove_count rfl o

theorem rawlru_removeLru_counts (c : RawLru κ ν) (o : Obj κ ν) :
    (held c.items).count o = (held c.removeLru.1.items).count o + (objsE c.removeLru.2.1 : List (Obj κ ν)).count o :=
  RawLru.removeLru_count rfl o

/-! ## SegmentedCache -/

theorem slru_put_conserves (s s' : Slru κ ν) (k : κ) (v : ν) (r : PutResult κ ν) (d : List (Obj κ ν)) (h : s.Inv)
    (hp : s.put k v = .ok (r, s', d)) (o : Obj κ ν) :
    s.heldAll.count o + ([Obj.key k, Obj.val v] : List (Obj κ ν)).count o =
      s'.heldAll.count o + r.drops.count o + d.count o := by
  cases (Slru.put_spec h k v).symm.trans hp
  obtain ⟨ev, hr, hf, _⟩ := SlruSpec.put_flow h.wf k v
  rw [Slru.heldAll_eq, Slru.heldAll_eq, hr]; exact hf.put_count o

theorem slru_putProtected_conserves (s s' : Slru κ ν) (k : κ) (v : ν) (r : PutResult κ ν) (d : List (Obj κ ν))
    (hp : s.putProtected k v = .ok (r, s', d)) (o : Obj κ ν) :
    s.heldAll.count o + ([Obj.key k, Obj.val v] : List (Obj κ ν)).count o =
      s'.heldAll.count o + r.drops.count o + d.count o := by
  revert hp
  fun_cases Slru.putProtected s k v <;> rintro ⟨⟩
  · have c2 := rawlru_put_conserves (hp := ‹_›) (o := o)
    simp only [Slru.heldAll, List.count_append] at c2 ⊢; omega
  -- the key was probationary: whatever the protected `put` reports, the old value rides along in the result or is dropped
  all_goals
    have c1 := RawLru.remove_count ‹_› o
    have c2 := rawlru_put_conserves (hp := ‹_›) (o := o)
    simp only [Slru.heldAll, objsV, PutResult.drops, List.count_append, List.count_cons, List.count_nil] at c1 c2 ⊢; omega

theorem slru_get_conserves (s s' : Slru κ ν) (k : κ) (w r : Option ν) (h : s.Inv) (hp : s.getMut k w = .ok (r, s'))
    (o : Obj κ ν) :
    s.heldAll.count o + (wrIn r w : List (Obj κ ν)).count o = s'.heldAll.count o + (wrOut r w : List (Obj κ ν)).count o := by
  cases (Slru.getMut_spec h k w).symm.trans hp
  obtain ⟨hr, hf, _⟩ := SlruSpec.get_flow h.wf k w
  rw [Slru.heldAll_eq, Slru.heldAll_eq, hr]; exact hf.get_count o

theorem slru_remove_conserves (s : Slru κ ν) (k : κ) (o : Obj κ ν) :
    s.heldAll.count o = (s.remove k).1.heldAll.count o + (objsV (s.remove k).2.1 : List (Obj κ ν)).count o +
      (s.remove k).2.2.count o := by
  fun_cases Slru.remove s k
  · have := RawLru.remove_count ‹s.prob.remove k = _› o
    simp only [Slru.heldAll, List.count_append] at this ⊢; omega
  · have := RawLru.remove_count ‹s.prot.remove k = _› o
    simp only [Slru.heldAll, List.count_append] at this ⊢; omega

theorem slru_purge_releases (s : Slru κ ν) :
    ∃ s' d, s.purge = .ok (s', d) ∧ s'.heldAll = [] ∧ ∀ o : Obj κ ν, s.heldAll.count o = d.count o := by
  refine ⟨_, _, by simp only [Slru.purge, RawLru.purge_spec]; rfl, rfl, fun o => ?_⟩
  simp only [Slru.heldAll, List.count_append, RawLru.count_purge_drops]

theorem slru_drop_releases (s : Slru κ ν) : s.dropCache = s.heldAll := rfl

/-! ## TwoQueueCache (ghost entries keep their values and are owned like any other entry) -/

theorem twoq_put_conserves (q : TwoQ κ ν) (k : κ) (v : ν) (h : q.Inv) :
    ∃ r q' d, q.put k v = .ok (r, q', d) ∧ ∀ o : Obj κ ν,
      q.heldAll.count o + ([Obj.key k, Obj.val v] : List (Obj κ ν)).count o =
        q'.heldAll.count o + r.drops.count o + d.count o :=
  ⟨_, _, _, TwoQ.put_spec h k v, TwoQ.put_count h (TwoQ.put_spec h k v)⟩

theorem twoq_get_conserves (q : TwoQ κ ν) (k : κ) (w : Option ν) (h : q.Inv) :
    ∃ r q', q.getMut k w = .ok (r, q') ∧ ∀ o : Obj κ ν,
      q.heldAll.count o + (wrIn r w : List (Obj κ ν)).count o = q'.heldAll.count o + (wrOut r w : List (Obj κ ν)).count o :=
  ⟨_, _, TwoQ.getMut_spec h k w, TwoQ.getMut_count h (TwoQ.getMut_spec h k w)⟩

theorem twoq_remove_conserves (q : TwoQ κ ν) (k : κ) (o : Obj κ ν) :
    q.heldAll.count o = (q.remove k).1.heldAll.count o + (objsV (q.remove k).2.1 : List (Obj κ ν)).count o +
      (q.remove k).2.2.count o := by
  fun_cases TwoQ.remove q k
  · have := RawLru.remove_count ‹q.frequent.remove k = _› o
    simp only [TwoQ.heldAll, List.count_append] at this ⊢; omega
  · have := RawLru.remove_count ‹q.recent.remove k = _› o
    simp only [TwoQ.heldAll, List.count_append] at this ⊢; omega
  · have := RawLru.remove_count ‹q.ghost.remove k = _› o
    simp only [TwoQ.heldAll, List.count_append] at this ⊢; omega

theorem twoq_purge_releases (q : TwoQ κ ν) :
    ∃ q' d, q.purge = .ok (q', d) ∧ q'.heldAll = [] ∧ ∀ o : Obj κ ν, q.heldAll.count o = d.count o := by
  refine ⟨_, _, by simp only [TwoQ.purge, RawLru.purge_spec]; rfl, rfl, fun o => ?_⟩
  simp only [TwoQ.heldAll, List.count_append, RawLru.count_purge_drops]; omega

theorem twoq_drop_releases (q : TwoQ κ ν) (o : Obj κ ν) : q.dropCache.count o = q.heldAll.count o := by
  simp only [TwoQ.dropCache, RawLru.dropCache, TwoQ.heldAll, held, List.count_append]; omega

/-! ## AdaptiveCache (ghost entries pushed out or trimmed are dropped by the cache, and counted) -/

theorem arc_put_conserves (a a' : Arc κ ν) (k : κ) (v : ν) (r : PutResult κ ν) (d : List (Obj κ ν))
    (hp : a.put k v = .ok (r, a', d)) (o : Obj κ ν) :
    a.heldAll.count o + ([Obj.key k, Obj.val v] : List (Obj κ ν)).count o =
      a'.heldAll.count o + r.drops.count o + d.count o := by
  revert hp
  -- five ways to succeed: the key is in T1, in T2, in B1, in B2, or new; each primitive on the way keeps its own books
  fun_cases Arc.put a k v <;> rintro ⟨⟩
  · have c1 := RawLru.removeEnt_count ‹_› o
    have c2 := RawLru.putNonnull_count ‹_› o
    simp only [Arc.heldAll, dropEnt, PutResult.drops, List.count_append, List.count_cons, List.count_nil] at c1 c2 ⊢; omega
  · have c1 := RawLru.update_count a.frequent k v _ ‹_› o
    simp only [Arc.heldAll, PutResult.drops, List.count_append, List.count_cons, List.count_nil] at c1 ⊢; omega
  -- on a ghost hit the state that makes room is a `let` of the case: `zetaDelta` looks into it
  · have c1 := RawLru.removeEnt_count ‹_› o
    have c2 := Arc.makeRoom_count ‹_› o
    have c3 := RawLru.putNonnull_count ‹_› o
    simp +zetaDelta only [Arc.heldAll, dropEnt, PutResult.drops, List.count_append, List.count_cons, List.count_nil]
      at c1 c2 c3 ⊢; omega
  · have c1 := RawLru.removeEnt_count ‹_› o
    have c2 := Arc.makeRoom_count ‹_› o
    have c3 := RawLru.putNonnull_count ‹_› o
    simp +zetaDelta only [Arc.heldAll, dropEnt, PutResult.drops, List.count_append, List.count_cons, List.count_nil]
      at c1 c2 c3 ⊢; omega
  · rw [Arc.makeRoom_count ‹_› o, Arc.trimRecent_count ‹_› o, Arc.trimFrequent_count ‹_› o]
    have c4 := rawlru_put_conserves (hp := ‹_›) (o := o)
    simp only [Arc.heldAll, List.count_append] at c4 ⊢; omega

theorem arc_get_conserves (a a' : Arc κ ν) (k : κ) (w r : Option ν) (d : List (Obj κ ν))
    (hp : a.getMut k w = .ok (r, a', d)) (o : Obj κ ν) :
    a.heldAll.count o + (wrIn r w : List (Obj κ ν)).count o =
      a'.heldAll.count o + (wrOut r w : List (Obj κ ν)).count o + d.count o := by
  revert hp
  fun_cases Arc.getMut a k w
  · exact (Arc.moveToFrequent_count · o)
  · rintro ⟨⟩
    have := RawLru.getMut_count ‹_› o
    simp only [Arc.heldAll, List.count_append, List.count_nil] at this ⊢; omega

theorem arc_remove_conserves (a : Arc κ ν) (k : κ) (o : Obj κ ν) :
    a.heldAll.count o = (a.remove k).1.heldAll.count o + (objsV (a.remove k).2.1 : List (Obj κ ν)).count o +
      (a.remove k).2.2.count o := by
  fun_cases Arc.remove a k
  · have := RawLru.remove_count ‹a.recent.remove k = _› o
    simp only [Arc.heldAll, List.count_append] at this ⊢; omega
  · have := RawLru.remove_count ‹a.frequent.remove k = _› o
    simp only [Arc.heldAll, List.count_append] at this ⊢; omega
  · have := RawLru.remove_count ‹a.recentEvict.remove k = _› o
    simp only [Arc.heldAll, List.count_append] at this ⊢; omega
  · have := RawLru.remove_count ‹a.frequentEvict.remove k = _› o
    simp only [Arc.heldAll, List.count_append] at this ⊢; omega

theorem arc_purge_releases (a : Arc κ ν) :
    ∃ a' d, a.purge = .ok (a', d) ∧ a'.heldAll = [] ∧ ∀ o : Obj κ ν, a.heldAll.count o = d.count o := by
  refine ⟨_, _, by simp only [Arc.purge, RawLru.purge_spec]; rfl, rfl, fun o => ?_⟩
  simp only [Arc.heldAll, List.count_append, RawLru.count_purge_drops]; omega

theorem arc_drop_releases (a : Arc κ ν) (o : Obj κ ν) : a.dropCache.count o = a.heldAll.count o := by
  simp only [Arc.dropCache, RawLru.dropCache, Arc.heldAll, held, List.count_append]; omega

/-! ## WTinyLFUCache -/

theorem wtinylfu_put_conserves (c c' : WTinyLfu κ ν) (kh : κ → UInt64) (k : κ) (v : ν) (r : PutResult κ ν)
    (d : List (Obj κ ν)) (hi : c.Inv) (hp : c.put kh k v = .ok (r, c', d)) (o : Obj κ ν) :
    c.heldAll.count o + ([Obj.key k, Obj.val v] : List (Obj κ ν)).count o =
      c'.heldAll.count o + r.drops.count o + d.count o := by
  cases (WTinyLfu.put_spec kh hi k v).symm.trans hp
  obtain ⟨ev, hr, hf, _⟩ := WtSpec.put_flow hi.wf (WtSpec.verdict kh c.est) k v
  rw [WTinyLfu.heldAll_eq, WTinyLfu.heldAll_eq, hr]; exact hf.put_count o

theorem wtinylfu_get_conserves (c c' : WTinyLfu κ ν) (kh : κ → UInt64) (k : κ) (w r : Option ν) (hi : c.Inv)
    (hp : c.getMut kh k w = .ok (r, c')) (o : Obj κ ν) :
    c.heldAll.count o + (wrIn r w : List (Obj κ ν)).count o = c'.heldAll.count o + (wrOut r w : List (Obj κ ν)).count o := by
  cases (WTinyLfu.getMut_spec kh hi k w).symm.trans hp
  obtain ⟨hr, hf, _⟩ := WtSpec.get_flow hi.wf k w
  rw [WTinyLfu.heldAll_eq, WTinyLfu.heldAll_eq, hr]; exact hf.get_count o

theorem wtinylfu_remove_conserves (c : WTinyLfu κ ν) (k : κ) (o : Obj κ ν) :
    c.heldAll.count o = (c.remove k).1.heldAll.count o + (objsV (c.remove k).2.1 : List (Obj κ ν)).count o +
      (c.remove k).2.2.count o := by
  fun_cases WTinyLfu.remove c k
  · have := RawLru.remove_count ‹c.window.remove k = _› o
    simp only [WTinyLfu.heldAll, List.count_append] at this ⊢; omega
  · have := slru_remove_conserves c.main k o
    simp only [‹c.main.remove k = _›] at this
    simp only [WTinyLfu.heldAll, List.count_append]; omega

theorem wtinylfu_purge_releases (c : WTinyLfu κ ν) :
    ∃ c' d, c.purge = .ok (c', d) ∧ c'.heldAll = [] ∧ ∀ o : Obj κ ν, c.heldAll.count o = d.count o := by
  obtain ⟨m', d, hm, h0, hc⟩ := slru_purge_releases c.main
  refine ⟨_, _, by simp only [WTinyLfu.purge, RawLru.purge_spec, hm]; rfl, ?_, fun o => ?_⟩
  · simp only [WTinyLfu.heldAll, h0]; rfl
  · simp only [WTinyLfu.heldAll, List.count_append, RawLru.count_purge_drops, hc o]

theorem wtinylfu_drop_releases (c : WTinyLfu κ ν) : c.dropCache = c.heldAll := rfl

/-! ## the ledger over whole histories ("at any moment …")

`runLedger` runs a history of `put` / `get` / `remove` / `purge` and keeps two columns: every object handed to the cache,
and every object the cache handed back (in a `PutResult`, from `remove`) or dropped itself. For every history from a
well-formed cache and for every object `o`: `#held at the start + #handed in = #held at the end + #handed back or dropped`.
Starting from an empty cache this says each object handed in is, at that moment, exactly once in exactly one of the three
places — nothing dropped twice, nothing leaked, nothing dropped while still held. -/

/-- one successful ledger step balances its own books: the four per-operation equations above, `get` with nothing written -/
theorem slru_books {s s' : Slru κ ν} {o : LOp κ ν} {ins outs : List (Obj κ ν)} (hi : s.Inv)
    (h : Slru.lstep s o = .ok (s', ins, outs)) (x : Obj κ ν) :
    s.heldAll.count x + ins.count x = s'.heldAll.count x + outs.count x := by
  revert h
  fun_cases Slru.lstep s o <;> rintro ⟨⟩
  · rw [List.count_append, ← Nat.add_assoc]; exact slru_put_conserves (h := hi) (hp := ‹_›) (o := x)
  · have := slru_get_conserves (h := hi) (hp := ‹_›) (o := x)
    simpa only [wrIn_none, wrOut_none, List.count_nil, Nat.add_zero] using this
  · rw [List.count_append, ← Nat.add_assoc]; exact slru_remove_conserves s _ x
  · next h =>
    obtain ⟨_, _, hp, h0, hc⟩ := slru_purge_releases s
    cases hp.symm.trans h
    simp only [h0, hc x, List.count_nil, Nat.add_zero, Nat.zero_add]

theorem twoq_books {q q' : TwoQ κ ν} {o : LOp κ ν} {ins outs : List (Obj κ ν)} (hi : q.Inv)
    (h : TwoQ.lstep q o = .ok (q', ins, outs)) (x : Obj κ ν) :
    q.heldAll.count x + ins.count x = q'.heldAll.count x + outs.count x := by
  revert h
  fun_cases TwoQ.lstep q o <;> rintro ⟨⟩
  · rw [List.count_append, ← Nat.add_assoc]; exact TwoQ.put_count hi ‹_› x
  · have := TwoQ.getMut_count hi ‹_› x
    simpa only [wrIn_none, wrOut_none, List.count_nil, Nat.add_zero] using this
  · rw [List.count_append, ← Nat.add_assoc]; exact twoq_remove_conserves q _ x
  · next h =>
    obtain ⟨_, _, hp, h0, hc⟩ := twoq_purge_releases q
    cases hp.symm.trans h
    simp only [h0, hc x, List.count_nil, Nat.add_zero, Nat.zero_add]

theorem arc_books {a a' : Arc κ ν} {o : LOp κ ν} {ins outs : List (Obj κ ν)}
    (h : Arc.lstep a o = .ok (a', ins, outs)) (x : Obj κ ν) :
    a.heldAll.count x + ins.count x = a'.heldAll.count x + outs.count x := by
  revert h
  fun_cases Arc.lstep a o <;> rintro ⟨⟩
  · rw [List.count_append, ← Nat.add_assoc]; exact arc_put_conserves (hp := ‹_›) (o := x)
  · have := arc_get_conserves (hp := ‹_›) (o := x)
    simpa only [wrIn_none, wrOut_none, List.count_nil, Nat.add_zero] using this
  · rw [List.count_append, ← Nat.add_assoc]; exact arc_remove_conserves a _ x
  · next h =>
    obtain ⟨_, _, hp, h0, hc⟩ := arc_purge_releases a
    cases hp.symm.trans h
    simp only [h0, hc x, List.count_nil, Nat.add_zero, Nat.zero_add]

theorem wtinylfu_books {kh : κ → UInt64} {c c' : WTinyLfu κ ν} {o : LOp κ ν} {ins outs : List (Obj κ ν)}
    (hi : c.Inv) (h : WTinyLfu.lstep kh c o = .ok (c', ins, outs)) (x : Obj κ ν) :
    c.heldAll.count x + ins.count x = c'.heldAll.count x + outs.count x := by
  revert h
  fun_cases WTinyLfu.lstep kh c o <;> rintro ⟨⟩
  · rw [List.count_append, ← Nat.add_assoc]; exact wtinylfu_put_conserves (hi := hi) (hp := ‹_›) (o := x)
  · have := wtinylfu_get_conserves (hi := hi) (hp := ‹_›) (o := x)
    simpa only [wrIn_none, wrOut_none, List.count_nil, Nat.add_zero] using this
  · rw [List.count_append, ← Nat.add_assoc]; exact wtinylfu_remove_conserves c _ x
  · next h =>
    obtain ⟨_, _, hp, h0, hc⟩ := wtinylfu_purge_releases c
    cases hp.symm.trans h
    simp only [h0, hc x, List.count_nil, Nat.add_zero, Nat.zero_add]

theorem slru_ledger (p q : Nat) (s0 : Slru κ ν) (hc : Slru.new p q = some s0) (ops : List (LOp κ ν)) :
    ∃ s ins outs, runLedger Slru.lstep s0 ops = .ok (s, ins, outs) ∧
      ∀ o, ins.count o = s.heldAll.count o + outs.count o :=
  ledger_empty Slru.lstep_fst Slru.step_inv slru_books ops s0 (Slru.inv_new hc) (by rw [(Slru.new_ok hc).1]; rfl)

theorem twoq_ledger (size : Nat) (rr gr : RatioClass) (rs es : Nat) (q0 : TwoQ κ ν)
    (hc : TwoQ.new size rr gr rs es = .ok q0) (h0 : q0.heldAll = []) (ops : List (LOp κ ν)) :
    ∃ q ins outs, runLedger TwoQ.lstep q0 ops = .ok (q, ins, outs) ∧
      ∀ o, ins.count o = q.heldAll.count o + outs.count o :=
  ledger_empty TwoQ.lstep_fst TwoQ.step_inv twoq_books ops q0 (TwoQ.inv_new hc) h0

theorem arc_ledger (size : Nat) (a0 : Arc κ ν) (hc : Arc.new size = some a0) (ops : List (LOp κ ν)) :
    ∃ a ins outs, runLedger Arc.lstep a0 ops = .ok (a, ins, outs) ∧
      ∀ o, ins.count o = a.heldAll.count o + outs.count o :=
  ledger_empty Arc.lstep_fst Arc.step_inv (fun _ => arc_books) ops a0 (Arc.inv_new hc) (by rw [(Arc.new_ok hc).1]; rfl)

theorem wtinylfu_ledger (kh : κ → UInt64) (c0 : WTinyLfu κ ν) (hi : c0.Inv) (h0 : c0.heldAll = []) (ops : List (LOp κ ν)) :
    ∃ c ins outs, runLedger (WTinyLfu.lstep kh) c0 ops = .ok (c, ins, outs) ∧
      ∀ o, ins.count o = c.heldAll.count o + outs.count o :=
  ledger_empty (WTinyLfu.lstep_fst kh) (WTinyLfu.step_inv kh) wtinylfu_books ops c0 hi h0

/-- after a final `purge` (or `Drop`) nothing is held: everything handed in has been handed back or dropped, once -/
theorem arc_ledger_closed (size : Nat) (a0 : Arc κ ν) (hc : Arc.new size = some a0) (ops : List (LOp κ ν)) :
    ∃ a ins outs, runLedger Arc.lstep a0 (ops ++ [.purge]) = .ok (a, ins, outs) ∧ a.heldAll = [] ∧
      ∀ o, ins.count o = outs.count o := by
  obtain ⟨a, ins, outs, hr, he⟩ := arc_ledger size a0 hc (ops ++ [.purge])
  -- the last step is a purge, so the final state holds nothing
  obtain ⟨a1, i1, o1, h1⟩ := runLedger_last hr
  obtain ⟨_, _, hp, h0, _⟩ := arc_purge_releases a1
  simp only [Arc.lstep, hp] at h1; cases h1
  exact ⟨_, ins, outs, hr, h0, fun o => by simpa [h0] using he o⟩

/-- non-vacuity: an ARC `put` that pushes an entry out of a full ghost list drops exactly that entry -/
example : (match ({ size := 1, p := 0, recent := ⟨1, [(1, 10)], false⟩, frequent := ⟨1, [], false⟩,
                    recentEvict := ⟨1, [(2, 20)], false⟩, frequentEvict := ⟨1, [], false⟩ } : Arc Nat Nat).put 3 30 with
           | .ok (r, a', d) => (a'.recent.items, a'.recentEvict.items, d) | .error _ => ([], [], []))
          = ([(3, 30)], [(1, 10)], [Obj.key 2, Obj.val 20]) := by decide
end C04
