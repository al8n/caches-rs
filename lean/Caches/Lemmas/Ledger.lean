/- The ownership ledger over whole histories (C04): what was handed to the cache = what it still holds + what it handed
   back + what it dropped, counted per object, after any sequence of `put` / `get` / `remove` / `purge`. -/
import Caches.Model.Api
import Caches.Lemmas.Conserve
set_option linter.unusedSectionVars false
namespace M
variable {κ ν : Type} [DecidableEq κ] [DecidableEq ν]

/-- the operations of the ledger: the `Cache` trait's ownership-relevant calls -/
inductive LOp (κ ν : Type) where
  | put (k : κ) (v : ν) | get (k : κ) | remove (k : κ) | purge

/-- one step with its books: new state, objects handed in, objects handed back or dropped -/
abbrev LStep (σ κ ν : Type) := σ → LOp κ ν → Res (σ × List (Obj κ ν) × List (Obj κ ν))

def runLedger {σ : Type} (step : LStep σ κ ν) : σ → List (LOp κ ν) → Res (σ × List (Obj κ ν) × List (Obj κ ν))
  | s, [] => .ok (s, [], [])
  | s, o :: rest =>
    match step s o with
    | .error f => .error f
    | .ok (s1, i1, o1) =>
      match runLedger step s1 rest with
      | .error f => .error f
      | .ok (s2, i2, o2) => .ok (s2, i1 ++ i2, o1 ++ o2)

theorem runLedger_last {σ : Type} {step : LStep σ κ ν} {x : LOp κ ν} {ops : List (LOp κ ν)} {s s' : σ}
    {ins outs : List (Obj κ ν)} (h : runLedger step s (ops ++ [x]) = .ok (s', ins, outs)) :
    ∃ s1 i1 o1, step s1 x = .ok (s', i1, o1) := by
  induction ops generalizing s ins outs with
  | nil =>
    simp only [List.nil_append, runLedger] at h
    split at h
    · cases h
    · next s1 i1 o1 h1 => cases h; exact ⟨s, i1, o1, h1⟩
  | cons y rest ih =>
    simp only [List.cons_append, runLedger] at h
    split at h
    · cases h
    · split at h
      · cases h
      · next h2 => cases h; exact ih h2

/-! Every history from a well-formed cache balances, given three things about one step: its state component is some
    operation `step` of the cache (`hfst`), which is total on the invariant and keeps it (`hstep`, the cache's
    `step_inv`), and when it succeeds it balances its own books (`hbooks`). -/
section history
variable {σ ω : Type} {lstep : LStep σ κ ν} {step : σ → ω → Res σ} {I : σ → Prop} {heldOf : σ → List (Obj κ ν)}
  (hfst : ∀ s o, ∃ o', (lstep s o).map (·.1) = step s o')
  (hstep : ∀ s o', I s → ∃ s', step s o' = .ok s' ∧ I s')
  (hbooks : ∀ {s o s' ins outs}, I s → lstep s o = .ok (s', ins, outs) →
    ∀ x, (heldOf s).count x + ins.count x = (heldOf s').count x + outs.count x)
include hfst hstep hbooks

theorem ledger_history (ops : List (LOp κ ν)) (s : σ) (hi : I s) :
    ∃ s' ins outs, runLedger lstep s ops = .ok (s', ins, outs) ∧ I s' ∧
      ∀ x, (heldOf s).count x + ins.count x = (heldOf s').count x + outs.count x := by
  induction ops generalizing s with
  | nil => exact ⟨s, [], [], rfl, hi, fun x => rfl⟩
  | cons o rest ih =>
    obtain ⟨o', ho'⟩ := hfst s o
    obtain ⟨s1, hs1, hi1⟩ := hstep s o' hi
    rw [← ho'] at hs1
    rcases h1 : lstep s o with _ | ⟨s1', i1, o1⟩ <;> rw [h1] at hs1 <;> cases hs1
    obtain ⟨s2, i2, o2, h2, hi2, e2⟩ := ih s1' hi1
    refine ⟨s2, i1 ++ i2, o1 ++ o2, by simp only [runLedger, h1, h2], hi2, fun x => ?_⟩
    have := hbooks hi h1 x; have := e2 x
    simp only [List.count_append]; omega

theorem ledger_empty (ops : List (LOp κ ν)) (s : σ) (hi : I s) (h0 : heldOf s = []) :
    ∃ s' ins outs, runLedger lstep s ops = .ok (s', ins, outs) ∧
      ∀ x, ins.count x = (heldOf s').count x + outs.count x := by
  obtain ⟨s', ins, outs, hr, _, he⟩ := ledger_history hfst hstep hbooks ops s hi
  exact ⟨s', ins, outs, hr, fun x => by simpa [h0] using he x⟩

end history

def Slru.lstep : LStep (Slru κ ν) κ ν
  | s, .put k v => match s.put k v with
    | .error f => .error f | .ok (r, s', d) => .ok (s', [.key k, .val v], r.drops ++ d)
  | s, .get k => match s.getMut k none with
    | .error f => .error f | .ok (_, s') => .ok (s', [], [])
  | s, .remove k => .ok ((s.remove k).1, [], objsV (s.remove k).2.1 ++ (s.remove k).2.2)
  | s, .purge => match s.purge with
    | .error f => .error f | .ok (s', d) => .ok (s', [], d)

theorem Slru.lstep_fst (s : Slru κ ν) (o : LOp κ ν) : ∃ o', (Slru.lstep s o).map (·.1) = s.step o' := by
  cases o with
  | put k v => exact ⟨.put k v, by simp only [Slru.lstep, Slru.step]; cases s.put k v <;> rfl⟩
  | get k => exact ⟨.getMut k none, by simp only [Slru.lstep, Slru.step]; cases s.getMut k none <;> rfl⟩
  | remove k => exact ⟨.remove k, rfl⟩
  | purge => exact ⟨.purge, by simp only [Slru.lstep, Slru.step]; cases s.purge <;> rfl⟩

def TwoQ.lstep : LStep (TwoQ κ ν) κ ν
  | q, .put k v => match q.put k v with
    | .error f => .error f | .ok (r, q', d) => .ok (q', [.key k, .val v], r.drops ++ d)
  | q, .get k => match q.getMut k none with
    | .error f => .error f | .ok (_, q') => .ok (q', [], [])
  | q, .remove k => .ok ((q.remove k).1, [], objsV (q.remove k).2.1 ++ (q.remove k).2.2)
  | q, .purge => match q.purge with
    | .error f => .error f | .ok (q', d) => .ok (q', [], d)

theorem TwoQ.lstep_fst (q : TwoQ κ ν) (o : LOp κ ν) : ∃ o', (TwoQ.lstep q o).map (·.1) = q.step o' := by
  cases o with
  | put k v => exact ⟨.put k v, by simp only [TwoQ.lstep, TwoQ.step]; cases q.put k v <;> rfl⟩
  | get k => exact ⟨.getMut k none, by simp only [TwoQ.lstep, TwoQ.step]; cases q.getMut k none <;> rfl⟩
  | remove k => exact ⟨.remove k, rfl⟩
  | purge => exact ⟨.purge, by simp only [TwoQ.lstep, TwoQ.step]; cases q.purge <;> rfl⟩

def Arc.lstep : LStep (Arc κ ν) κ ν
  | a, .put k v => match a.put k v with
    | .error f => .error f | .ok (r, a', d) => .ok (a', [.key k, .val v], r.drops ++ d)
  | a, .get k => match a.getMut k none with
    | .error f => .error f | .ok (_, a', d) => .ok (a', [], d)
  | a, .remove k => .ok ((a.remove k).1, [], objsV (a.remove k).2.1 ++ (a.remove k).2.2)
  | a, .purge => match a.purge with
    | .error f => .error f | .ok (a', d) => .ok (a', [], d)

theorem Arc.lstep_fst (a : Arc κ ν) (o : LOp κ ν) : ∃ o', (Arc.lstep a o).map (·.1) = a.step o' := by
  cases o with
  | put k v => exact ⟨.put k v, by simp only [Arc.lstep, Arc.step]; cases a.put k v <;> rfl⟩
  | get k => exact ⟨.getMut k none, by simp only [Arc.lstep, Arc.step]; cases a.getMut k none <;> rfl⟩
  | remove k => exact ⟨.remove k, rfl⟩
  | purge => exact ⟨.purge, by simp only [Arc.lstep, Arc.step]; cases a.purge <;> rfl⟩

def WTinyLfu.lstep (kh : κ → UInt64) : LStep (WTinyLfu κ ν) κ ν
  | c, .put k v => match c.put kh k v with
    | .error f => .error f | .ok (r, c', d) => .ok (c', [.key k, .val v], r.drops ++ d)
  | c, .get k => match c.getMut kh k none with
    | .error f => .error f | .ok (_, c') => .ok (c', [], [])
  | c, .remove k => .ok ((c.remove k).1, [], objsV (c.remove k).2.1 ++ (c.remove k).2.2)
  | c, .purge => match c.purge with
    | .error f => .error f | .ok (c', d) => .ok (c', [], d)

theorem WTinyLfu.lstep_fst (kh : κ → UInt64) (c : WTinyLfu κ ν) (o : LOp κ ν) :
    ∃ o', (WTinyLfu.lstep kh c o).map (·.1) = WTinyLfu.step kh c o' := by
  cases o with
  | put k v => exact ⟨.put k v, by simp only [WTinyLfu.lstep, WTinyLfu.step]; cases c.put kh k v <;> rfl⟩
  | get k => exact ⟨.getMut k none, by simp only [WTinyLfu.lstep, WTinyLfu.step]; cases c.getMut kh k none <;> rfl⟩
  | remove k => exact ⟨.remove k, rfl⟩
  | purge => exact ⟨.purge, by simp only [WTinyLfu.lstep, WTinyLfu.step]; cases c.purge <;> rfl⟩

end M
