/- `TwoQ`: the invariant; every operation computes the policy `TwoQSpec` on the three lists and leaves sizes, quota and
   capacities alone (`step_spec`), so the invariant is kept because the policy keeps its lists well formed. Every history is then the fold of the policy (`run_spec`).
   Last come what the cache owes to coherence (C02) and the objects it holds (C04). -/
import Caches.Lemmas.Conserve
import Caches.Lemmas.Coherence
import Caches.Lemmas.RawLru
import Caches.Lemmas.TwoQFlow
set_option linter.unusedSectionVars false
namespace M
open List
variable {κ ν : Type} [DecidableEq κ]
namespace TwoQ

structure Inv (q : TwoQ κ ν) : Prop where
  ndr : (keys q.recent.items).Nodup
  ndf : (keys q.frequent.items).Nodup
  ndg : (keys q.ghost.items).Nodup
  drf : ∀ x, x ∈ keys q.recent.items → x ∉ keys q.frequent.items
  drg : ∀ x, x ∈ keys q.recent.items → x ∉ keys q.ghost.items
  dfg : ∀ x, x ∈ keys q.frequent.items → x ∉ keys q.ghost.items
  bound : q.recent.items.length + q.frequent.items.length ≤ q.size
  gbound : q.ghost.items.length ≤ q.ghost.cap
  rcap : q.recent.cap = q.size
  fcap : q.frequent.cap = q.size
  spos : 0 < q.size
  gpos : 0 < q.ghost.cap

def set (q : TwoQ κ ν) (S : AL κ ν × AL κ ν × AL κ ν) : TwoQ κ ν :=
  { q with recent := { q.recent with items := S.1 }, frequent := { q.frequent with items := S.2.1 },
           ghost := { q.ghost with items := S.2.2 } }

theorem inv_iff (q : TwoQ κ ν) : q.Inv ↔
    TwoQSpec.WF q.recent.items q.frequent.items q.ghost.items q.size q.ghost.cap ∧
      q.recent.cap = q.size ∧ q.frequent.cap = q.size := by
  constructor
  · rintro ⟨ndr, ndf, ndg, drf, drg, dfg, b, gb, rc, fc, sp, gp⟩
    refine ⟨⟨?_, b, gb, sp, gp⟩, rc, fc⟩
    simp only [keys_append, nodup_append_iff]
    exact ⟨⟨ndr, ndf, drf⟩, ndg, fun x hx => (mem_append.1 hx).elim (drg x) (dfg x)⟩
  · rintro ⟨⟨nd, b, gb, sp, gp⟩, rc, fc⟩
    simp only [keys_append, nodup_append_iff] at nd
    obtain ⟨⟨ndr, ndf, drf⟩, ndg, dg⟩ := nd
    exact ⟨ndr, ndf, ndg, drf, fun x hx => dg x (mem_append_left _ hx), fun x hx => dg x (mem_append_right _ hx),
      b, gb, rc, fc, sp, gp⟩

theorem Inv.wf {q : TwoQ κ ν} (h : q.Inv) :
    TwoQSpec.WF q.recent.items q.frequent.items q.ghost.items q.size q.ghost.cap :=
  ((inv_iff q).1 h).1

theorem new_ok {size rs es : Nat} {rr gr : RatioClass} {q : TwoQ κ ν} (h : TwoQ.new size rr gr rs es = .ok q) :
    q = { size := size, rs := rs, recent := { cap := size, items := [] }, frequent := { cap := size, items := [] },
          ghost := { cap := es, items := [] } } ∧ 0 < size ∧ 0 < es ∧ rr.inUnit = true ∧ gr.inUnit = true := by
  unfold TwoQ.new at h
  repeat (split at h; · simp at h)
  simp_all; omega

theorem inv_new {size rs es : Nat} {rr gr : RatioClass} {q : TwoQ κ ν} (h : TwoQ.new size rr gr rs es = .ok q) : q.Inv := by
  obtain ⟨rfl, hs, he, -⟩ := new_ok h
  constructor <;> simp <;> omega

variable {q : TwoQ κ ν} {k : κ}

theorem takeVictim_spec (q : TwoQ κ ν) (b : Bool) {vic : κ × ν}
    (hv : (if TwoQSpec.fromRecent q.recent.items q.frequent.items q.rs b then q.recent.items.getLast?
      else q.frequent.items.getLast?) = some vic) :
    q.takeVictim q.recent.items.length q.frequent.items.length b = .ok (vic, q.set
      (if TwoQSpec.fromRecent q.recent.items q.frequent.items q.rs b then q.recent.items.dropLast else q.recent.items,
       if TwoQSpec.fromRecent q.recent.items q.frequent.items q.rs b then q.frequent.items else q.frequent.items.dropLast,
       q.ghost.items)) := by
  have : q.fromRecent q.recent.items.length q.frequent.items.length b =
    TwoQSpec.fromRecent q.recent.items q.frequent.items q.rs b := rfl
  unfold takeVictim
  rw [this]
  cases hfr : TwoQSpec.fromRecent q.recent.items q.frequent.items q.rs b <;>
    simp only [hfr, if_true, if_false, Bool.false_eq_true] at hv ⊢ <;>
    simp only [RawLru.removeLruIn_some _ _ hv] <;> rfl

theorem put_spec (h : q.Inv) (k : κ) (v : ν) :
    q.put k v = .ok (let r := TwoQSpec.put q.recent.items q.frequent.items q.ghost.items q.size q.rs q.ghost.cap k v
      (r.2.2.2, q.set (r.1, r.2.1, r.2.2.1), r.2.2.2.keyBack k)) := by
  have hb := h.bound; have hrc := h.rcap; have hfc := h.fcap; have hsp := h.spos; have hgp := h.gpos
  have hw := h.wf
  unfold TwoQSpec.put TwoQ.put
  cases hf : find k q.frequent.items with
  | some old => rfl
  | none =>
  cases hr : find k q.recent.items with
  | some old =>
    -- second access: recent → frequent, which has room since the key was resident
    have := length_erase_of_find hr
    simp only [RawLru.removeEnt_some _ k old hr, RawLru.putNonnull_room q.frequent _ (by omega)]; rfl
  | none =>
  simp only [RawLru.removeEnt_none _ k hr]
  cases hg : find k q.ghost.items with
  | some old =>
    -- a ghost is revived into frequent; when the cache is full a victim goes to the ghost list first, and may push the
    -- ghost of `k` itself out of it (`pushGhost_find`)
    by_cases hfull : q.recent.items.length + q.frequent.items.length ≥ q.size
    · obtain ⟨vic, R1, F1, hv, e1, e2, hperm, hlen⟩ :=
        TwoQSpec.victim_perm (R := q.recent.items) (F := q.frequent.items) (rs := q.rs) false (by omega)
      simp only [hfull, decide_true, if_true, hv, e1, e2, takeVictim_spec q false hv, set,
        TwoQSpec.pushGhost_eq, RawLru.putOrEvict_eq _ vic hgp]
      have hroom (e : κ × ν) :=
        RawLru.putNonnull_room { q.frequent with items := F1 } e (show F1.length < q.frequent.cap by omega)
      rcases hpg : push q.ghost.cap vic q.ghost.items with ⟨G1, d⟩
      rcases TwoQSpec.pushGhost_find (hw.nd_victim hperm) hg (.of_eq (hpg ▸ push_eq q.ghost.cap vic q.ghost.items)) with
        ⟨h1, h2⟩ | ⟨h1, rfl⟩
      · simp only [h1, hroom]
        cases d with
        | none => rfl
        | some g => simp only [h2 g rfl, if_false]; rfl
      · simp only [h1, hroom, erase_of_find_none h1, if_true]; rfl
    · simp only [hfull, decide_false, Bool.false_eq_true, if_false, RawLru.putNonnull_room q.frequent _ (by omega)]; rfl
  | none =>
    -- a new key enters recent, behind a victim when the cache is full
    by_cases hfull : q.recent.items.length + q.frequent.items.length ≥ q.size
    · obtain ⟨vic, R1, F1, hv, e1, e2, hperm, hlen⟩ :=
        TwoQSpec.victim_perm (R := q.recent.items) (F := q.frequent.items) (rs := q.rs) true (by omega)
      simp only [hfull, decide_true, if_true, hv, e1, e2,
        show ¬ q.frequent.items.length + q.recent.items.length < q.size by omega, if_false,
        takeVictim_spec q true hv, set, TwoQSpec.pushGhost_eq, RawLru.putNonnull_eq _ vic hgp,
        RawLru.putNonnull_room { q.recent with items := R1 } (k, v) (show R1.length < q.recent.cap by omega)]
      cases (push q.ghost.cap vic q.ghost.items).2 <;> rfl
    · simp only [hfull, decide_false, Bool.false_eq_true, if_false,
        show q.frequent.items.length + q.recent.items.length < q.size by omega, if_true,
        RawLru.putOrEvict_room q.recent _ (by omega)]; rfl

theorem getMut_spec (h : q.Inv) (k : κ) (w : Option ν) :
    q.getMut k w = .ok (let r := TwoQSpec.get q.recent.items q.frequent.items q.ghost.items k w
      (r.2.2.2, q.set (r.1, r.2.1, r.2.2.1))) := by
  unfold TwoQSpec.get TwoQ.getMut RawLru.getMut
  cases hf : find k q.frequent.items with
  | some old => rfl
  | none =>
    cases hr : find k q.recent.items with
    | none => rfl
    | some old =>
      have := length_erase_of_find hr; have := h.bound; have := h.fcap
      simp only [moveToFrequent, RawLru.removeEnt_some _ k old hr, RawLru.putOrEvict_room q.frequent _ (by omega)]; rfl

theorem remove_spec (q : TwoQ κ ν) (k : κ) :
    (q.remove k).1 = q.set ((TwoQSpec.remove q.recent.items q.frequent.items q.ghost.items k).1,
      (TwoQSpec.remove q.recent.items q.frequent.items q.ghost.items k).2.1,
      (TwoQSpec.remove q.recent.items q.frequent.items q.ghost.items k).2.2.1) ∧
    (q.remove k).2.1 = (TwoQSpec.remove q.recent.items q.frequent.items q.ghost.items k).2.2.2 := by
  unfold TwoQ.remove RawLru.remove TwoQSpec.remove
  cases find k q.frequent.items <;> cases find k q.recent.items <;> cases find k q.ghost.items <;> exact ⟨rfl, rfl⟩

theorem peekMut_spec (q : TwoQ κ ν) (k : κ) (w : Option ν) :
    (q.peekMut k w).1 = q.set (TwoQSpec.peekMut q.recent.items q.frequent.items q.ghost.items k w) := by
  unfold TwoQ.peekMut RawLru.peekMut TwoQSpec.peekMut
  cases find k q.frequent.items <;> cases find k q.recent.items <;> cases w <;> rfl

theorem purge_spec (q : TwoQ κ ν) : ∃ d, q.purge = .ok (q.set ([], [], []), d) := by
  simp only [TwoQ.purge, RawLru.purge_spec]; exact ⟨_, rfl⟩

theorem step_spec (h : q.Inv) (o : CacheOp κ ν) :
    q.step o = .ok (q.set (TwoQSpec.step q.size q.rs q.ghost.cap (q.recent.items, q.frequent.items, q.ghost.items) o)) := by
  cases o with
  | put k v => simp only [TwoQ.step, put_spec h k v]; rfl
  | getMut k w => simp only [TwoQ.step, getMut_spec h k w]; rfl
  | peekMut k w => simp only [TwoQ.step, peekMut_spec]; rfl
  | remove k => simp only [TwoQ.step, (remove_spec q k).1]; rfl
  | purge => obtain ⟨d, hd⟩ := purge_spec q; simp only [TwoQ.step, hd]; rfl
  | read => rfl

theorem Inv.step (h : q.Inv) (o : CacheOp κ ν) :
    (q.set (TwoQSpec.step q.size q.rs q.ghost.cap (q.recent.items, q.frequent.items, q.ghost.items) o)).Inv :=
  (inv_iff _).2 ⟨TwoQSpec.step_wf h.wf o, h.rcap, h.fcap⟩

theorem step_inv (q : TwoQ κ ν) (o : CacheOp κ ν) (h : q.Inv) : ∃ q', q.step o = .ok q' ∧ q'.Inv :=
  ⟨_, step_spec h o, h.step o⟩

theorem run_spec (h : q.Inv) (ops : List (CacheOp κ ν)) :
    runOps TwoQ.step q ops = .ok (q.set (ops.foldl (TwoQSpec.step q.size q.rs q.ghost.cap)
      (q.recent.items, q.frequent.items, q.ghost.items))) ∧
    (q.set (ops.foldl (TwoQSpec.step q.size q.rs q.ghost.cap) (q.recent.items, q.frequent.items, q.ghost.items))).Inv := by
  induction ops generalizing q with
  | nil => exact ⟨rfl, h⟩
  | cons o rest ih => simp only [runOps, step_spec h o, foldl_cons]; exact ih (h.step o)

/-! ### what each operation owes to coherence (C02): only the resident queues count as entries, ghosts do not -/
def ents (q : TwoQ κ ν) : AL κ ν := q.recent.items ++ q.frequent.items

def decl (q : TwoQ κ ν) : CacheOp κ ν → Decl κ ν
  | .put k v => keyDecl k (some (k, v))
  | .getMut k w => RawLru.writeDecl k ((find k q.frequent.items).isSome || (find k q.recent.items).isSome) w
  | .peekMut k w => RawLru.writeDecl k ((find k q.frequent.items).isSome || (find k q.recent.items).isSome) w
  | .remove k => keyDecl k none
  | .purge => { wr := none, kills := fun _ => true }
  | .read => Decl.none

theorem peek_eq (h : q.Inv) (k : κ) : q.peek k = find k q.ents := by
  unfold TwoQ.peek RawLru.peek ents; rw [find_append]
  cases hf : find k q.frequent.items with
  | none => cases find k q.recent.items <;> rfl
  | some v => rw [find_left_none h.wf.ndrf hf]; rfl

theorem step_owes (q : TwoQ κ ν) (o : CacheOp κ ν) (h : q.Inv) :
    ∃ q', q.step o = .ok q' ∧ q'.Inv ∧ Owes (q.decl o) q.ents q'.ents := by
  refine ⟨_, step_spec h o, h.step o, ?_⟩
  have hw := h.wf
  have hres : ∀ k, ((find k q.frequent.items).isSome || (find k q.recent.items).isSome) = (find k q.ents).isSome := fun k => by
    rw [ents, find_append, Option.isSome_or, Bool.or_comm]
  cases o with
  | put k v => obtain ⟨vic, ev, -, h₁, -⟩ := TwoQSpec.put_flow hw q.rs k v; exact h₁.owes hw.ndrf (by simp)
  | getMut k w => obtain ⟨_, hf, -⟩ := TwoQSpec.get_flow hw k w; simp only [decl, hres]; exact Flow.owes_write hw.ndrf hf
  | peekMut k w => simp only [decl, hres, TwoQSpec.step, TwoQSpec.peekMut_eq hw.ndrf]; exact owes_writeAt hw.ndrf k w
  | remove k => simp only [TwoQSpec.step, TwoQSpec.remove_eq hw.nd]; exact owes_erase hw.ndrf k
  | purge => exact owes_all _
  | read => exact owes_none _ _ fun e he => he

/-! ### the objects the three lists hold (C04), ghosts included; `put` and `get` are the counting reading of the two-level flow -/
section held
variable [DecidableEq ν]

def heldAll (q : TwoQ κ ν) : List (Obj κ ν) := held q.recent.items ++ (held q.frequent.items ++ held q.ghost.items)

theorem heldAll_eq (q : TwoQ κ ν) : q.heldAll = held (q.recent.items ++ q.frequent.items ++ q.ghost.items) := by
  simp only [heldAll, held_append, List.append_assoc]

theorem put_count {q q' : TwoQ κ ν} {k : κ} {v : ν} {r : PutResult κ ν} {d : List (Obj κ ν)} (h : q.Inv)
    (hp : q.put k v = .ok (r, q', d)) (o : Obj κ ν) :
    q.heldAll.count o + ([Obj.key k, Obj.val v] : List (Obj κ ν)).count o =
      q'.heldAll.count o + r.drops.count o + d.count o := by
  cases (put_spec h k v).symm.trans hp
  obtain ⟨vic, ev, hr, h₁, h₂, -⟩ := TwoQSpec.put_flow h.wf q.rs k v
  rw [heldAll_eq, heldAll_eq, hr]; exact (h₁.comp h₂ h.wf.nd).put_count o

theorem getMut_count {q q' : TwoQ κ ν} {k : κ} {w r : Option ν} (h : q.Inv) (hp : q.getMut k w = .ok (r, q'))
    (o : Obj κ ν) :
    q.heldAll.count o + (wrIn r w : List (Obj κ ν)).count o = q'.heldAll.count o + (wrOut r w : List (Obj κ ν)).count o := by
  cases (getMut_spec h k w).symm.trans hp
  obtain ⟨hr, hf, hG⟩ := TwoQSpec.get_flow h.wf k w
  have := hf.get_count o
  simp only [heldAll, set, hr, hG, held_append, List.count_append] at this ⊢; omega

end held
end TwoQ

end M
