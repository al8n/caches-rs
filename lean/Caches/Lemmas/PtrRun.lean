/- Runs of the pointer-level RawLRU and their refinement to list-level runs (used by C03 and C17) -/
import Caches.Lemmas.PtrLru
import Caches.Lemmas.RawStep
set_option linter.unusedSectionVars false
namespace M
variable {κ ν : Type} [DecidableEq κ] [DecidableEq ν]

inductive POp (κ ν : Type) where
  | get (k : κ) | put (k : κ) (v : ν) | remove (k : κ) | removeLru

def POp.toRaw : POp κ ν → RawOp κ ν
  | .get k => .get k
  | .put k v => .put k v
  | .remove k => .remove k
  | .removeLru => .removeLru

/-- `alloc` is the allocator: whatever it answers for the current state -/
def pstep (alloc : PLru κ ν → Nat) (p : PLru κ ν) : POp κ ν → PLru κ ν
  | .get k => (p.get k).1
  | .put k v => (p.put k v (alloc p)).1
  | .remove k => (p.remove k).1
  | .removeLru => p.removeLru.1

inductive Ans (κ ν : Type) where
  | val (r : Option ν) | res (r : PutResult κ ν) | ent (r : Option (κ × ν))
deriving DecidableEq

def pans (alloc : PLru κ ν → Nat) (p : PLru κ ν) : POp κ ν → Ans κ ν
  | .get k => .val (p.get k).2
  | .put k v => .res (p.put k v (alloc p)).2
  | .remove k => .val (p.remove k).2
  | .removeLru => .ent p.removeLru.2

/-- the `.error` branch of `put` is never taken on a cache that a `Rep` state represents (`put_refines`) -/
def lans (c : RawLru κ ν) : POp κ ν → Ans κ ν
  | .get k => .val (c.get k).2
  | .put k v => match c.put k v with | .ok (_, r, _) => .res r | .error _ => .res .put
  | .remove k => .val (c.remove k).2.1
  | .removeLru => .ent c.removeLru.2.1

/-- an allocator is admissible when it never returns an address that is in use -/
def Admissible (alloc : PLru κ ν → Nat) : Prop :=
  ∀ p l, Rep p l → alloc p ∉ p.head :: (l ++ [p.tail])

theorem ptr_refines_step (alloc : PLru κ ν → Nat) (ha : Admissible alloc) (p : PLru κ ν) (l : List Nat)
    (h : Rep p l) (o : POp κ ν) :
    pans alloc p o = lans (p.abs l) o ∧
      ∃ l', Rep (pstep alloc p o) l' ∧ (p.abs l).step o.toRaw = .ok ((pstep alloc p o).abs l') := by
  cases o with
  | get k =>
    obtain ⟨l', hr, ha', hans⟩ := get_refines p l h k
    exact ⟨congrArg Ans.val hans, l', hr, congrArg Except.ok ha'.symm⟩
  | put k v =>
    obtain ⟨l', c', e, hr, hput, rfl⟩ := put_refines p l h k v (alloc p) (ha p l h)
    exact ⟨by simp only [pans, lans, hput], l', hr, by simp only [POp.toRaw, RawLru.step, hput, pstep]⟩
  | remove k =>
    obtain ⟨l', hr, ha', hans⟩ := remove_refines p l h k
    exact ⟨congrArg Ans.val hans, l', hr, congrArg Except.ok ha'.symm⟩
  | removeLru =>
    obtain ⟨l', hr, ha', hans⟩ := removeLru_refines p l h
    exact ⟨congrArg Ans.ent hans, l', hr, congrArg Except.ok ha'.symm⟩

theorem ptr_refines_history (alloc : PLru κ ν → Nat) (ha : Admissible alloc) (ops : List (POp κ ν))
    (p : PLru κ ν) (l : List Nat) (h : Rep p l) :
    ∃ l' c', Rep (ops.foldl (pstep alloc) p) l' ∧ runOps RawLru.step (p.abs l) (ops.map POp.toRaw) = .ok c' ∧
      (ops.foldl (pstep alloc) p).abs l' = c' := by
  induction ops generalizing p l with
  | nil => exact ⟨l, _, h, rfl, rfl⟩
  | cons o rest ih =>
    obtain ⟨-, l1, hr1, hs1⟩ := ptr_refines_step alloc ha p l h o
    obtain ⟨l2, c2, hr2, hs2, ha2⟩ := ih (pstep alloc p o) l1 hr1
    exact ⟨l2, c2, hr2, by simp only [List.map_cons, runOps, hs1]; exact hs2, ha2⟩

end M
