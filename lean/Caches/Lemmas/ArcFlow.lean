/- The ARC policy as flows of entries on two levels: the resident lists `t1 ++ t2` and the ghost lists `b1 ++ b2`.
   What leaves the residents (the victim, the least recent of `t1` or of `t2`) enters the ghosts; what leaves the ghosts
   is forgotten. `put` is staged: `remember`, `replace` / `makeRoom`, `admitNew`, then the five cases of `put`. -/
import Caches.Lemmas.Flow
import Caches.Props.ArcMachine
set_option linter.unusedSectionVars false
namespace M
open List
variable {κ ν : Type} [DecidableEq κ]

namespace ArcSpec

structure WF (s : St κ ν) (size : Nat) : Prop where
  nd : (keys ((s.t1 ++ s.t2) ++ (s.b1 ++ s.b2))).Nodup
  bound : s.t1.length + s.t2.length ≤ size
  b1 : s.b1.length ≤ size
  b2 : s.b2.length ≤ size
  ple : s.p ≤ size
  spos : 0 < size

variable {s s1 s' : St κ ν} {size : Nat} {k : κ}

theorem WF.ndr (h : WF s size) : (keys (s.t1 ++ s.t2)).Nodup := nodup_keys_left h.nd

theorem remember_push (B : AL κ ν) (size : Nat) (vic : κ × ν) : remember B size vic = (push size vic B).1 := by
  unfold remember push; split <;> rfl

theorem remember_eq {B : AL κ ν} (vic : κ × ν) (hs : 0 < size) (hb : B.length ≤ size) :
    ∃ gone, vic :: B = remember B size vic ++ gone ∧ (remember B size vic).length ≤ size :=
  ⟨_, remember_push B size vic ▸ push_eq size vic B, remember_push B size vic ▸ length_push hs hb vic⟩

/-- `X`, `Y` are whatever stands around `T` and `B`: one lemma for `t1`, `b1` (`X = []`) and `t2`, `b2` (`Y = []`) -/
theorem demote_flow {T B : AL κ ν} (hpos : 0 < T.length) (hs : 0 < size) (hb : B.length ≤ size) :
    ∃ vic gone, T.getLast? = some vic ∧ T.dropLast.length + 1 = T.length ∧ (remember B size vic).length ≤ size ∧
      ∀ X Y : AL κ ν, X ++ T ++ Y ~ X ++ T.dropLast ++ Y ++ [vic] ∧
        vic :: (X ++ B ++ Y) ~ X ++ remember B size vic ++ Y ++ gone := by
  letI := Classical.typeDecidableEq ν
  obtain ⟨vic, hl⟩ := getLast?_some_of_pos T hpos
  obtain ⟨gone, hg, hlen⟩ := remember_eq vic hs hb
  refine ⟨vic, gone, hl, by simp only [length_dropLast]; omega, hlen, fun X Y =>
    ⟨perm_iff_count.2 fun x => ?_, perm_iff_count.2 fun x => ?_⟩⟩
  · simp only [count_append, count_dropLast hl x]; omega
  · have := congrArg (count x) hg; simp only [count_append, count_cons] at this ⊢; omega

theorem replace_flow {b : Bool} (hs : 0 < size) (h1 : s.b1.length ≤ size) (h2 : s.b2.length ≤ size)
    (hne : 0 < s.t1.length + s.t2.length) (he : replace s size b = s1) :
    ∃ vic gone, s.t1 ++ s.t2 ~ s1.t1 ++ s1.t2 ++ [vic] ∧ vic :: (s.b1 ++ s.b2) ~ s1.b1 ++ s1.b2 ++ gone ∧
      (s.t1.getLast? = some vic ∨ s.t2.getLast? = some vic) ∧ s1.p = s.p ∧
      s1.t1.length + s1.t2.length + 1 = s.t1.length + s.t2.length ∧ s1.b1.length ≤ size ∧ s1.b2.length ≤ size := by
  unfold replace at he
  split at he
  · rename_i hfr
    obtain ⟨vic, gone, hl, hlen, hb, hp⟩ :=
      demote_flow (T := s.t1) (by simp [fromRecent] at hfr; omega) hs h1
    simp only [hl] at he; subst he
    exact ⟨vic, gone, by simpa using (hp [] s.t2).1, by simpa using (hp [] s.b2).2, .inl hl, rfl, by simp only; omega,
      hb, h2⟩
  · rename_i hfr
    have hpos : 0 < s.t2.length := by
      by_cases h0 : 0 < s.t1.length
      · simp [fromRecent, h0] at hfr; exact length_pos_iff.2 hfr.2
      · omega
    obtain ⟨vic, gone, hl, hlen, hb, hp⟩ := demote_flow hpos hs h2
    simp only [hl] at he; subst he
    exact ⟨vic, gone, by simpa using (hp s.t1 []).1, by simpa using (hp s.b1 []).2, .inr hl, rfl, by simp only; omega,
      h1, hb⟩

theorem makeRoom_flow {b : Bool} (he : makeRoom s size b = s1) (hs : 0 < size) (hr : s.t1.length + s.t2.length ≤ size)
    (h1 : s.b1.length ≤ size) (h2 : s.b2.length ≤ size) :
    ∃ (vic : Option (κ × ν)) (gone : AL κ ν),
      s.t1 ++ s.t2 ~ s1.t1 ++ s1.t2 ++ vic.toList ∧ vic.toList ++ (s.b1 ++ s.b2) ~ s1.b1 ++ s1.b2 ++ gone ∧
      (∀ e ∈ vic, s.t1.getLast? = some e ∨ s.t2.getLast? = some e) ∧ s1.p = s.p ∧
      s1.t1.length + s1.t2.length < size ∧ s1.b1.length ≤ size ∧ s1.b2.length ≤ size := by
  unfold makeRoom at he
  split at he
  · obtain ⟨vic, gone, hR, hG, hl, hp, hlen, hb1, hb2⟩ := replace_flow hs h1 h2 (by omega) he
    exact ⟨some vic, gone, hR, hG, by simpa using hl, hp, by omega, hb1, hb2⟩
  · subst he; exact ⟨none, [], by simp, by simp, by simp, rfl, by omega, h1, h2⟩

theorem makeRoom_t1 (s : St κ ν) (size : Nat) (b : Bool) : (makeRoom s size b).t1.Sublist s.t1 := by
  unfold makeRoom replace
  repeat' split
  all_goals first | exact .refl _ | exact dropLast_sublist _

theorem admitNew_eq (s1 : St κ ν) (size n1 n2 : Nat) (k : κ) (v : ν) :
    admitNew s1 size n1 n2 k v =
      { t1 := (k, v) :: s1.t1, t2 := s1.t2, b1 := if n1 > size - s1.p then s1.b1.dropLast else s1.b1,
        b2 := if n2 > s1.p then s1.b2.dropLast else s1.b2, p := s1.p } := by
  by_cases c1 : n1 > size - s1.p <;> by_cases c2 : n2 > s1.p <;> simp only [admitNew, c1, c2, if_true, if_false]

theorem trim_eq (c : Prop) [Decidable c] (B : AL κ ν) :
    ∃ gone, B = (if c then B.dropLast else B) ++ gone ∧ (if c then B.dropLast else B).length ≤ B.length := by
  split
  · exact ⟨_, (dropLast_append_getLast?_toList B).symm, by simp⟩
  · exact ⟨[], by simp, Nat.le_refl _⟩

structure PutFlow (s s' : St κ ν) (size : Nat) (k : κ) (v : ν) (vic : Option (κ × ν)) (gone : AL κ ν) : Prop where
  res : Flow k [(k, v)] (s.t1 ++ s.t2) (s'.t1 ++ s'.t2) vic.toList
  ghost : Flow k vic.toList (s.b1 ++ s.b2) (s'.b1 ++ s'.b2) gone
  lru : ∀ e ∈ vic, s.t1.getLast? = some e ∨ s.t2.getLast? = some e
  mem : (k, v) ∈ s'.t1 ++ s'.t2
  bound : s'.t1.length + s'.t2.length ≤ size
  b1 : s'.b1.length ≤ size
  b2 : s'.b2.length ≤ size
  ple : s'.p ≤ size

/-- a key that is not resident: room is made in `s` with the key's ghost unlinked (`B1`, `B2`) and `p` adapted (`p0`),
    then the entry is admitted to a resident list and the ghost lists may be trimmed -/
theorem admit_flow {p0 : Nat} {B1 B2 : AL κ ν} {b : Bool} {v : ν} {trim : AL κ ν} (h : WF s size)
    (fR : find k (s.t1 ++ s.t2) = none) (he : makeRoom { s with p := p0, b1 := B1, b2 := B2 } size b = s1)
    (hg : B1 ++ B2 = erase k (s.b1 ++ s.b2)) (hb1 : B1.length ≤ size) (hb2 : B2.length ≤ size) (hp : p0 ≤ size)
    (hR : s'.t1 ++ s'.t2 ~ (k, v) :: (s1.t1 ++ s1.t2)) (hG : s1.b1 ++ s1.b2 ~ s'.b1 ++ s'.b2 ++ trim)
    (h1 : s'.b1.length ≤ s1.b1.length) (h2 : s'.b2.length ≤ s1.b2.length) (hp' : s'.p = s1.p) :
    ∃ vic gone, PutFlow s s' size k v vic gone := by
  letI := Classical.typeDecidableEq ν
  obtain ⟨vic, gone, hR1, hG1, hl, (hp1 : s1.p = p0), hlt, hb1', hb2'⟩ := makeRoom_flow he h.spos h.bound hb1 hb2
  rw [hg] at hG1
  have hlen := hR.length_eq
  simp only [length_cons, length_append] at hlen
  refine ⟨vic, gone ++ trim, perm_iff_count.2 fun x => ?_, perm_iff_count.2 fun x => ?_, hl,
    hR.mem_iff.2 (mem_cons_self ..), by omega, by omega, by omega, by omega⟩
  · have := hR.count_eq x; have := hR1.count_eq x
    simp only [erase_of_find_none fR, count_append, count_cons, count_nil] at *; omega
  · have := hG.count_eq x; have := hG1.count_eq x
    simp only [count_append] at *; omega

theorem put_flow (h : WF s size) (k : κ) (v : ν) :
    let r := put s size k v
    r.2 = (find k ((s.t1 ++ s.t2) ++ (s.b1 ++ s.b2))).elim .put .update ∧ ∃ vic gone, PutFlow s r.1 size k v vic gone := by
  have ⟨_, _, hb1, hb2, hp, _⟩ := h
  unfold put
  cases f1 : find k s.t1 with
  | some old =>
    have fG := find_right_none h.nd (by rw [find_append, f1]; rfl)
    have := length_erase_of_find f1
    exact ⟨by simp [find_append, f1], none, [], Flow.hit_left _ f1 s.t2, .miss fG, by simp, by simp,
      by simp only [length_cons]; omega, h.b1, h.b2, h.ple⟩
  | none =>
    cases f2 : find k s.t2 with
    | some old =>
      have fG := find_right_none h.nd (by rw [find_append, f1, f2]; rfl)
      have := length_erase_of_find f2
      exact ⟨by simp [find_append, f1, f2], none, [], Flow.hit_right _ f1 s.t2, .miss fG, by simp,
        by simp, by simp only [length_cons]; omega, h.b1, h.b2, h.ple⟩
    | none =>
      have fR : find k (s.t1 ++ s.t2) = none := by rw [find_append, f1, f2]; rfl
      cases f3 : find k s.b1 with
      | some old =>
        have := length_erase_of_find f3
        simp only
        generalize hm : makeRoom _ size false = s1
        exact ⟨by simp [find_append, f1, f2, f3], admit_flow (trim := []) h fR hm (erase_append_left f3 _).symm
          (by omega) h.b2 (by omega) perm_middle (by simp) (Nat.le_refl _) (Nat.le_refl _) rfl⟩
      | none =>
        cases f4 : find k s.b2 with
        | some old =>
          have := length_erase_of_find f4
          simp only
          generalize hm : makeRoom _ size true = s1
          exact ⟨by simp [find_append, f1, f2, f3, f4], admit_flow (trim := []) h fR hm
            (erase_append_right f3 _).symm h.b1 (by omega) (by omega)
            perm_middle (by simp) (Nat.le_refl _) (Nat.le_refl _) rfl⟩
        | none =>
          letI := Classical.typeDecidableEq ν
          simp only [admitNew_eq]
          generalize hm : makeRoom s size false = s1
          obtain ⟨g1, e1, l1⟩ := trim_eq (s.b1.length > size - s1.p) s1.b1
          obtain ⟨g2, e2, l2⟩ := trim_eq (s.b2.length > s1.p) s1.b2
          refine ⟨by simp [find_append, f1, f2, f3, f4], admit_flow (trim := g1 ++ g2) h fR hm
            (by rw [erase_append_right f3, erase_of_find_none f4]) h.b1 h.b2 h.ple (.refl _)
            (perm_iff_count.2 fun x => ?_) l1 l2 rfl⟩
          have := congrArg (count x) e1; have := congrArg (count x) e2
          simp only [count_append] at *; omega

theorem get_flow (s : St κ ν) (k : κ) (w : Option ν) :
    let r := get s k w
    r.2 = find k (s.t1 ++ s.t2) ∧
      Flow k ((find k (s.t1 ++ s.t2)).map fun old => (k, w.getD old)).toList (s.t1 ++ s.t2) (r.1.t1 ++ r.1.t2) [] ∧
      r.1.b1 = s.b1 ∧ r.1.b2 = s.b2 ∧ r.1.p = s.p := by
  unfold get
  rw [find_append]
  cases f1 : find k s.t1 with
  | some old =>
    exact ⟨rfl, Flow.hit_left _ f1 s.t2, rfl, rfl, rfl⟩
  | none =>
    cases f2 : find k s.t2 with
    | some old =>
      exact ⟨rfl, Flow.hit_right _ f1 s.t2, rfl, rfl, rfl⟩
    | none => exact ⟨rfl, by simp [Flow, erase_append_right f1, erase_of_find_none f2], rfl, rfl, rfl⟩

theorem peekMut_eq (nd : (keys (s.t1 ++ s.t2)).Nodup) (k : κ) (w : Option ν) :
    peekMut s k w = { s with t1 := writeAt k w s.t1, t2 := writeAt k w s.t2 } := by
  unfold peekMut writeAt
  cases f1 : find k s.t1 with
  | some old => cases w <;> simp only [setVal_of_find_none _ (find_right_none nd f1)]
  | none =>
    cases f2 : find k s.t2 with
    | some old => cases w <;> simp only [setVal_of_find_none _ f1]
    | none => cases w <;> simp only [setVal_of_find_none _ f1, setVal_of_find_none _ f2]

theorem remove_flow (s : St κ ν) (k : κ) :
    Flow k [] (s.t1 ++ s.t2) ((remove s k).1.t1 ++ (remove s k).1.t2) [] ∧
    (remove s k).1.t1.Sublist s.t1 ∧ (remove s k).1.t2.Sublist s.t2 ∧ (remove s k).1.b1.Sublist s.b1 ∧
    (remove s k).1.b2.Sublist s.b2 ∧ (remove s k).1.p = s.p := by
  have e := fun l : AL κ ν => erase_sublist k l
  unfold remove
  cases f1 : find k s.t1 with
  | some old => exact ⟨by simp [Flow, erase_append_left f1], e _, .refl _, .refl _, .refl _, rfl⟩
  | none =>
    cases f2 : find k s.t2 with
    | some old => exact ⟨by simp [Flow, erase_append_right f1], .refl _, e _, .refl _, .refl _, rfl⟩
    | none =>
      have : Flow k [] (s.t1 ++ s.t2) (s.t1 ++ s.t2) [] := by simp [Flow, erase_append_right f1, erase_of_find_none f2]
      cases find k s.b1 with
      | some old => exact ⟨this, .refl _, .refl _, e _, .refl _, rfl⟩
      | none => cases find k s.b2 <;> exact ⟨this, .refl _, .refl _, .refl _, by first | exact e _ | exact .refl _, rfl⟩

/- The lists stay well formed for one of three reasons: after `put` by its two flows, after a lookup because it permutes
   the keys of the residents, after `remove` and `purge` because every list is a sublist of what it was. -/

theorem PutFlow.wf {v : ν} {vic : Option (κ × ν)} {gone : AL κ ν} (h : WF s size) (hf : PutFlow s s' size k v vic gone) :
    WF s' size :=
  ⟨(hf.res.comp hf.ghost h.nd).nodup_left h.nd (.inr ⟨v, rfl⟩),
    hf.bound, hf.b1, hf.b2, hf.ple, h.spos⟩

theorem WF.of_keys (h : WF s size) (hk : keys (s'.t1 ++ s'.t2) ~ keys (s.t1 ++ s.t2)) (h1 : s'.b1 = s.b1)
    (h2 : s'.b2 = s.b2) (hp : s'.p = s.p) : WF s' size := by
  have hl := hk.length_eq
  simp only [keys, length_map, length_append] at hl
  refine ⟨?_, by have := h.bound; omega, h1 ▸ h.b1, h2 ▸ h.b2, hp ▸ h.ple, h.spos⟩
  rw [h1, h2, keys_append]
  exact (hk.append_right _).nodup_iff.2 (keys_append .. ▸ h.nd)

theorem WF.sub (h : WF s size) (h1 : s'.t1.Sublist s.t1) (h2 : s'.t2.Sublist s.t2) (h3 : s'.b1.Sublist s.b1)
    (h4 : s'.b2.Sublist s.b2) (hp : s'.p = s.p) : WF s' size :=
  ⟨(((h1.append h2).append (h3.append h4)).map _).nodup h.nd,
    by have := h1.length_le; have := h2.length_le; have := h.bound; omega,
    Nat.le_trans h3.length_le h.b1, Nat.le_trans h4.length_le h.b2, hp ▸ h.ple, h.spos⟩

theorem step_wf (h : WF s size) (o : CacheOp κ ν) : WF (step size s o) size := by
  cases o with
  | put k v => obtain ⟨_, vic, gone, hf⟩ := put_flow h k v; exact hf.wf h
  | getMut k w => obtain ⟨_, hf, h1, h2, hp⟩ := get_flow s k w; exact h.of_keys hf.keys_write h1 h2 hp
  | peekMut k w =>
    rw [step, peekMut_eq h.ndr]
    exact h.of_keys (by simp only [keys_append, keys_writeAt]; exact .refl _) rfl rfl rfl
  | remove k => obtain ⟨_, h1, h2, h3, h4, hp⟩ := remove_flow s k; exact h.sub h1 h2 h3 h4 hp
  | purge => exact h.sub (nil_sublist _) (nil_sublist _) (nil_sublist _) (nil_sublist _) rfl
  | read => exact h

/-! ### what `put` reports and what may leave silently (C12, with the exception the property grants to ghost lists) -/

def all4 (s : St κ ν) : AL κ ν := s.t1 ++ (s.t2 ++ (s.b1 ++ s.b2))

/-- what ARC's `put` reports is true, and the only entries that leave without being reported are ghosts:
    entries that were in a ghost list before the call, or the least-recent resident of T1/T2 that this very call
    demoted to a ghost list and trimmed -/
structure ArcTruth (s s' : St κ ν) (k : κ) (v : ν) (r : PutResult κ ν) : Prop where
  resident : (k, v) ∈ s'.t1 ++ s'.t2
  result : (r = .put ∧ k ∉ keys (all4 s)) ∨ (∃ old, r = .update old ∧ (k, old) ∈ all4 s)
  nothing_new : ∀ e, e ∈ all4 s' → e = (k, v) ∨ (e ∈ all4 s ∧ e.1 ≠ k)
  residents : ∀ e, e ∈ s.t1 ++ s.t2 → e.1 ≠ k →
      e ∈ s'.t1 ++ s'.t2 ∨ s.t1.getLast? = some e ∨ s.t2.getLast? = some e

/-- the resident flow of `put` gives `resident` and `residents`, the two flows composed give `result` and `nothing_new` -/
theorem put_truth {s : St κ ν} {size : Nat} (h : WF s size) (k : κ) (v : ν) :
    ArcTruth s (put s size k v).1 k v (put s size k v).2 := by
  obtain ⟨hr, vic, gone, hf⟩ := put_flow h k v
  have e4 : ∀ s : St κ ν, (s.t1 ++ s.t2) ++ (s.b1 ++ s.b2) = all4 s := fun s => List.append_assoc ..
  have nd := h.nd
  have hall := hf.res.comp hf.ghost nd
  rw [e4] at hr nd hall; rw [e4] at hall
  refine ⟨hf.mem, ?_, fun e he => by simpa using hall.mem nd he, fun e he hk => ?_⟩
  · cases hfk : find k (all4 s) with
    | none => exact .inl ⟨by rw [hr, hfk]; rfl, (find_none_iff ..).1 hfk⟩
    | some old => exact .inr ⟨old, by rw [hr, hfk]; rfl, find_mem hfk⟩
  · exact (hf.res.mem_out he hk).imp_right fun hv => hf.lru e (by simpa using hv)

end ArcSpec
end M
