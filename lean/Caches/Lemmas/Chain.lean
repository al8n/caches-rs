/- Layer B: a chain of addresses between two sentinels. `attach` puts a node behind the head, `detach` takes an interior node
   out (`attach_wf`, `detach_wf`: the chain is then `n :: l`, `l.erase n`); in a linked list each node's neighbours are its
   list neighbours (`linked_next`, `linked_prev`, `tail_prev`), which is what the two cursor walks read. -/
import Caches.Model.Chain
namespace M.Chain

theorem exists_snoc {α : Type} {l : List α} (h : l ≠ []) : ∃ ys a, l = ys ++ [a] :=
  ⟨_, _, (List.dropLast_concat_getLast h).symm⟩

@[simp] theorem setPrev_next (h : Heap) (a v x : Nat) : (setPrev h a v x).next = (h x).next := by
  unfold setPrev; split <;> rfl
@[simp] theorem setNext_prev (h : Heap) (a v x : Nat) : (setNext h a v x).prev = (h x).prev := by
  unfold setNext; split <;> rfl
theorem setNext_next (h : Heap) (a v x : Nat) : (setNext h a v x).next = if x = a then v else (h x).next := by
  unfold setNext; split <;> rfl
theorem setPrev_prev (h : Heap) (a v x : Nat) : (setPrev h a v x).prev = if x = a then v else (h x).prev := by
  unfold setPrev; split <;> rfl

theorem detach_next (h : Heap) (n x : Nat) :
    (detach h n x).next = if x = (h n).prev then (h n).next else (h x).next := by
  simp only [detach, setPrev_next, setNext_next]
theorem detach_prev (h : Heap) (n x : Nat) :
    (detach h n x).prev = if x = (h n).next then (h n).prev else (h x).prev := by
  simp only [detach, setPrev_prev, setNext_prev, setNext_next, ite_self]

theorem attach_next (h : Heap) (head n x : Nat) :
    (attach h head n x).next = if x = head then n else if x = n then (h head).next else (h x).next := by
  simp only [attach, setPrev_next, setNext_next]
theorem attach_prev (h : Heap) (head n x : Nat) (hn : n ≠ head) :
    (attach h head n x).prev = if x = (h head).next then n else if x = n then head else (h x).prev := by
  simp only [attach, setPrev_prev, setNext_prev, setPrev_next, setNext_next, hn, if_false, if_true]

theorem linked_tail (h : Heap) (a : Nat) (t : List Nat) (hl : Linked h (a :: t)) : Linked h t := by
  cases t with
  | nil => trivial
  | cons b t' => exact hl.2.2

theorem linked_append (h : Heap) (xs : List Nat) (a b : Nat) (ys : List Nat) :
    Linked h (xs ++ a :: b :: ys) ↔
      Linked h (xs ++ [a]) ∧ ((h a).next = b ∧ (h b).prev = a) ∧ Linked h (b :: ys) := by
  induction xs with
  | nil => simp [Linked, and_assoc]
  | cons x t ih => cases t <;> simp_all [Linked, and_assoc]

theorem linked_next (h : Heap) (xs : List Nat) (a : Nat) (t : List Nat) (hl : Linked h (xs ++ a :: t)) (ht : t ≠ []) :
    t.head? = some (h a).next := by
  obtain ⟨b, ys, rfl⟩ := List.exists_cons_of_ne_nil ht
  exact congrArg some ((linked_append h xs a b ys).1 hl).2.1.1.symm

theorem linked_prev (h : Heap) (t : List Nat) (b : Nat) (ys : List Nat) (hl : Linked h (t ++ b :: ys)) (ht : t ≠ []) :
    t.getLast? = some (h b).prev := by
  obtain ⟨xs, a, rfl⟩ := exists_snoc ht
  rw [List.append_assoc] at hl
  exact List.getLast?_concat.trans (congrArg some ((linked_append h xs a b ys).1 hl).2.1.2.symm)

theorem linked_frame (h h' : Heap) (l : List Nat) (hn : ∀ x ∈ l.dropLast, (h' x).next = (h x).next)
    (hp : ∀ x ∈ l.tail, (h' x).prev = (h x).prev) (hl : Linked h l) : Linked h' l := by
  induction l with
  | nil => trivial
  | cons a t ih =>
    cases t with
    | nil => trivial
    | cons b t' =>
      refine ⟨(hn a (by simp)).trans hl.1, (hp b (by simp)).trans hl.2.1,
        ih (fun x hx => hn x ?_) (fun x hx => hp x ?_) hl.2.2⟩
      · simp only [List.dropLast_cons_cons, List.mem_cons]; exact .inr hx
      · exact List.mem_cons_of_mem _ hx

theorem linked_congr (h h' : Heap) (l : List Nat) (hc : ∀ x ∈ l, h' x = h x) (hl : Linked h l) : Linked h' l :=
  linked_frame h h' l (fun x hx => congrArg Links.next (hc x ((List.dropLast_sublist _).subset hx)))
    (fun x hx => congrArg Links.prev (hc x (List.mem_of_mem_tail hx))) hl

theorem head_next (h : Heap) (head tail : Nat) (l : List Nat) (hw : WF h head tail l) :
    (h head).next = (l ++ [tail]).head! := by
  cases l <;> exact hw.2.1

theorem WF.nodup {h : Heap} {head tail : Nat} {l : List Nat} (hw : WF h head tail l) : l.Nodup :=
  (List.nodup_append.1 (List.nodup_cons.1 hw.1).2).1

theorem attach_wf (h : Heap) (head tail n : Nat) (l : List Nat) (hw : WF h head tail l)
    (hn : n ∉ head :: (l ++ [tail])) : WF (attach h head n) head tail (n :: l) := by
  obtain ⟨hnd, hl⟩ := hw
  obtain ⟨b, t, e⟩ := List.exists_cons_of_ne_nil (l := l ++ [tail]) (by simp)
  unfold WF
  rw [e] at hnd hl hn
  rw [List.cons_append, e]
  obtain ⟨hh, hnd'⟩ := List.nodup_cons.1 hnd
  obtain ⟨hnh, hnt⟩ := not_or.1 (mt List.mem_cons.2 hn)
  obtain ⟨hb, -, l2⟩ := hl
  -- `head → n → b`, and of `b :: t` only `b.prev` is written, which `Linked (b :: t)` does not read
  refine ⟨(List.Perm.swap ..).nodup_iff.1 (List.nodup_cons.2 ⟨hn, hnd⟩), ?_, ?_, ?_, ?_, linked_frame h _ _ ?_ ?_ l2⟩
  · rw [attach_next, if_pos rfl]
  · rw [attach_prev _ _ _ _ hnh, hb, if_neg (ne_of_mem_of_not_mem List.mem_cons_self hnt).symm, if_pos rfl]
  · rw [attach_next, if_neg hnh, if_pos rfl, hb]
  · rw [attach_prev _ _ _ _ hnh, hb, if_pos rfl]
  · intro x hx
    have hm := (List.dropLast_sublist _).subset hx
    rw [attach_next, if_neg (ne_of_mem_of_not_mem hm hh), if_neg (ne_of_mem_of_not_mem hm hnt)]
  · intro x hx
    rw [attach_prev _ _ _ _ hnh, hb, if_neg (ne_of_mem_of_not_mem hx (List.nodup_cons.1 hnd').1),
      if_neg (ne_of_mem_of_not_mem (List.mem_cons_of_mem b hx) hnt)]

/-- `detach` of an interior node: with a neighbour on either side there is no case for a first or last node -/
theorem detach_linked (h : Heap) (pre post : List Nat) (n : Nat) (hpre : pre ≠ []) (hpost : post ≠ [])
    (hw : (pre ++ n :: post).Nodup ∧ Linked h (pre ++ n :: post)) :
    (pre ++ post).Nodup ∧ Linked (detach h n) (pre ++ post) := by
  obtain ⟨xs, a, rfl⟩ := exists_snoc hpre
  obtain ⟨b, ys, rfl⟩ := List.exists_cons_of_ne_nil hpost
  -- without `n` the two sides are duplicate-free and disjoint
  have hnd := hw.1.sublist ((List.sublist_cons_self n _).append_left _)
  obtain ⟨h1, h2, hd⟩ := List.nodup_append.1 hnd
  refine ⟨hnd, ?_⟩
  have hl := hw.2
  rw [List.append_assoc, List.singleton_append] at hl ⊢
  obtain ⟨l1, ⟨han, hna⟩, hnb, hbn, l2⟩ := (linked_append h xs a n _).1 hl
  refine (linked_append _ xs a b ys).2 ⟨linked_frame h _ _ ?_ ?_ l1, ⟨?_, ?_⟩, linked_frame h _ _ ?_ ?_ l2⟩
  · intro x hx; rw [List.dropLast_concat] at hx
    rw [detach_next, hna, hnb, if_neg ((List.nodup_append.1 h1).2.2 x hx a (by simp))]
  · intro x hx
    rw [detach_prev, hna, hnb, if_neg (hd x (List.mem_of_mem_tail hx) b (by simp))]
  · rw [detach_next, hna, hnb, if_pos rfl]
  · rw [detach_prev, hna, hnb, if_pos rfl]
  · intro x hx
    rw [detach_next, hna, hnb, if_neg (hd a (by simp) x ((List.dropLast_sublist _).subset hx)).symm]
  · intro x hx
    rw [detach_prev, hna, hnb, if_neg (ne_of_mem_of_not_mem hx (List.nodup_cons.1 h2).1)]

theorem detach_wf (h : Heap) (head tail : Nat) (l : List Nat) (hw : WF h head tail l) (n : Nat) (hn : n ∈ l) :
    WF (detach h n) head tail (l.erase n) := by
  obtain ⟨s, t, rfl⟩ := List.append_of_mem hn
  have hns : n ∉ s := fun hc => (List.nodup_append.1 hw.nodup).2.2 n hc n List.mem_cons_self rfl
  unfold WF at *
  rw [show head :: (s ++ n :: t ++ [tail]) = (head :: s) ++ n :: (t ++ [tail]) by simp] at hw
  rw [List.erase_append_right _ hns, List.erase_cons_head,
    show head :: (s ++ t ++ [tail]) = (head :: s) ++ (t ++ [tail]) by simp]
  exact detach_linked h _ _ n (by simp) (by simp) hw

theorem walkNext_linked (h : Heap) (a : Nat) (t r : List Nat) (hl : Linked h (a :: (t ++ r))) :
    walkNext h t.length (h a).next = t := by
  induction t generalizing a with
  | nil => rfl
  | cons b t' ih =>
    obtain ⟨h1, _, h3⟩ := hl
    simp only [List.length_cons, walkNext, h1]
    rw [ih b h3]

theorem walkPrev_linked (h : Heap) (p r : List Nat) (z : Nat) (hl : Linked h (p ++ r.reverse ++ [z])) :
    walkPrev h r.length (h z).prev = r := by
  induction r generalizing z with
  | nil => rfl
  | cons b r' ih =>
    rw [List.reverse_cons, ← List.append_assoc, List.append_assoc _ [b]] at hl
    obtain ⟨h1, ⟨-, h2⟩, -⟩ := (linked_append h _ b z []).1 hl
    simp only [List.length_cons, walkPrev, h2, ih b h1]

theorem tail_prev (h : Heap) (head tail : Nat) (ys : List Nat) (n : Nat) (hw : WF h head tail (ys ++ [n])) :
    (h tail).prev = n := by
  have hl := hw.2
  rw [List.append_assoc] at hl
  exact ((linked_append h (head :: ys) n tail []).1 hl).2.1.2

theorem move_front_wf (h : Heap) (head tail : Nat) (l : List Nat) (hw : WF h head tail l) (n : Nat) (hn : n ∈ l) :
    WF (attach (detach h n) head n) head tail (n :: l.erase n) :=
  -- the chain is a rearrangement of `n ::` the chain without `n`
  have hp := (((List.perm_cons_erase hn).append_right [tail]).cons head).trans (.swap ..)
  attach_wf _ _ _ _ _ (detach_wf h head tail l hw n hn) (List.nodup_cons.1 (hp.nodup_iff.1 hw.1)).1

end M.Chain
