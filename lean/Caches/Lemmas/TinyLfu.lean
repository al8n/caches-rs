/- TinyLFU: well-formedness (totality), the exact reference counter, and the simulation between the two. -/
import Caches.Model.TinyLfu
import Caches.Lemmas.Sketch
import Caches.Lemmas.Bloom
namespace M
namespace TinyLfu

structure WF (t : TinyLfu) : Prop where
  sk : t.sketch.WF
  dk : t.door.WF

/-- the doorkeeper answers yes for `h`: all its probe bits are set -/
def Has (t : TinyLfu) (h : UInt64) : Prop := ∀ j, Bloom.Probes t.door h j → t.door.bit j = true

/-- every operation only replaces the rows, the doorkeeper's words and `w`, so all but `depth` and `words` hold by
    computation wherever an instance is built -/
structure SameGeo (t t' : TinyLfu) : Prop where
  mask : t'.sketch.mask = t.sketch.mask
  scheme : t'.sketch.scheme = t.sketch.scheme
  depth : t'.sketch.rows.length = t.sketch.rows.length
  sizeMask : t'.door.sizeMask = t.door.sizeMask
  setLocs : t'.door.setLocs = t.door.setLocs
  shift : t'.door.shift = t.door.shift
  words : t'.door.bits.length = t.door.bits.length
  samples : t'.samples = t.samples

theorem SameGeo.refl (t : TinyLfu) : SameGeo t t := ⟨rfl, rfl, rfl, rfl, rfl, rfl, rfl, rfl⟩
theorem SameGeo.trans {a b c : TinyLfu} (h1 : SameGeo a b) (h2 : SameGeo b c) : SameGeo a c :=
  ⟨h2.mask.trans h1.mask, h2.scheme.trans h1.scheme, h2.depth.trans h1.depth, h2.sizeMask.trans h1.sizeMask,
    h2.setLocs.trans h1.setLocs, h2.shift.trans h1.shift, h2.words.trans h1.words, h2.samples.trans h1.samples⟩

/-- what `reset` (`g = (· / 2)`) and `clear` (`g = 0`) leave: same geometry, window counter and doorkeeper zeroed, every
    counter mapped through `g` -/
structure Wiped (g : Nat → Nat) (t t' : TinyLfu) : Prop where
  wf : t'.WF
  geo : SameGeo t t'
  w : t'.w = 0
  ctr : ∀ i p, t'.sketch.ctr i p = g (t.sketch.ctr i p)
  bit : ∀ j, t'.door.bit j = false

theorem reset_spec (t : TinyLfu) (hwf : t.WF) : Wiped (· / 2) t t.reset :=
  have sr := Sketch.reset_spec t.sketch hwf.sk
  have dc := Bloom.clear_spec t.door hwf.dk
  ⟨⟨sr.1, dc.1⟩, ⟨rfl, rfl, sr.2.1, rfl, rfl, rfl, List.length_map _, rfl⟩, rfl, sr.2.2, dc.2⟩

theorem clear_spec (t : TinyLfu) (hwf : t.WF) : Wiped (fun _ => 0) t t.clear :=
  have sr := Sketch.clear_spec t.sketch hwf.sk
  have dc := Bloom.clear_spec t.door hwf.dk
  ⟨⟨sr.1, dc.1⟩, ⟨rfl, rfl, sr.2.1, rfl, rfl, rfl, List.length_map _, rfl⟩, rfl, sr.2.2, dc.2⟩

/-- `reset` overwrites the window counter, so the increment before it is not seen -/
theorem tryReset_eq (t : TinyLfu) : t.tryReset = if t.w + 1 ≥ t.samples then t.reset else { t with w := t.w + 1 } := rfl

theorem tryReset_wf (t : TinyLfu) (hwf : t.WF) : t.tryReset.WF ∧ SameGeo t t.tryReset := by
  rw [tryReset_eq]; split
  · exact ⟨(reset_spec t hwf).wf, (reset_spec t hwf).geo⟩
  · exact ⟨⟨hwf.sk, hwf.dk⟩, rfl, rfl, rfl, rfl, rfl, rfl, rfl, rfl⟩

theorem contains_spec (t : TinyLfu) (hwf : t.WF) (h : UInt64) :
    ∃ r, t.contains h = .ok r ∧ (r = true ↔ Has t h) := Bloom.contains_spec t.door hwf.dk h

theorem estimate_spec (t : TinyLfu) (hwf : t.WF) (h : UInt64) :
    ∃ e b, t.estimate h = .ok (e + (if b then 1 else 0)) ∧ (b = true ↔ Has t h) ∧ e ≤ 15 ∧
      (∀ i, i < t.sketch.rows.length → e ≤ t.sketch.ctr i (t.sketch.posN i h)) ∧
      (∃ i, i < t.sketch.rows.length ∧ e = t.sketch.ctr i (t.sketch.posN i h)) := by
  obtain ⟨e, he, h15, hle, hex⟩ := Sketch.estimate_spec t.sketch hwf.sk h
  obtain ⟨b, hb, hiff⟩ := Bloom.contains_spec t.door hwf.dk h
  refine ⟨e, b, ?_, hiff, h15, hle, hex⟩
  unfold TinyLfu.estimate
  simp only [he, hb]
  cases b <;> simp

theorem compare_spec (t : TinyLfu) (hwf : t.WF) (c : Cmp) (a b : UInt64) :
    ∃ ea eb, t.estimate a = .ok ea ∧ t.estimate b = .ok eb ∧ t.compare c a b = .ok (c.eval ea eb) := by
  obtain ⟨ea, ba, ha, _⟩ := estimate_spec t hwf a
  obtain ⟨eb, bb, hb, _⟩ := estimate_spec t hwf b
  refine ⟨_, _, ha, hb, ?_⟩
  unfold TinyLfu.compare TinyLfu.compareHelper
  rw [ha, hb]

theorem compare_total (t : TinyLfu) (hwf : t.WF) (c : Cmp) (a b : UInt64) : ∃ r, t.compare c a b = .ok r :=
  let ⟨_, _, _, _, h⟩ := compare_spec t hwf c a b; ⟨_, h⟩

/-- exact bookkeeping per 64-bit hash: `door h` = seen in this sample window, `cnt h` = aged count of the further accesses -/
structure Ref where
  cnt : UInt64 → Nat
  door : UInt64 → Bool
  w : Nat

def Ref.zero : Ref := { cnt := fun _ => 0, door := fun _ => false, w := 0 }

def Ref.reset (r : Ref) : Ref := { cnt := fun h => r.cnt h / 2, door := fun _ => false, w := 0 }

def Ref.tryReset (r : Ref) (samples : Nat) : Ref :=
  if r.w + 1 ≥ samples then ({ r with w := r.w + 1 } : Ref).reset else { r with w := r.w + 1 }

def Ref.increment (r : Ref) (samples : Nat) (h : UInt64) : Ref :=
  (if r.door h then { r with cnt := fun x => if x = h then min 15 (r.cnt h + 1) else r.cnt x }
   else { r with door := fun x => if x = h then true else r.door x }).tryReset samples

def Ref.estimate (r : Ref) (h : UInt64) : Nat := r.cnt h + (if r.door h then 1 else 0)

/-- the simulation: the estimator dominates the exact reference, bit for bit and counter for counter -/
structure Sim (t : TinyLfu) (r : Ref) : Prop where
  w_eq : t.w = r.w
  door_le : ∀ h, r.door h = true → Has t h
  cnt_le : ∀ h i, i < t.sketch.rows.length → r.cnt h ≤ t.sketch.ctr i (t.sketch.posN i h)

/-- the converse of `Sim` at one hash: the estimator holds nothing about `h0` that the reference does not -/
structure Up (t : TinyLfu) (r : Ref) (h0 : UInt64) : Prop where
  door_ge : Has t h0 → r.door h0 = true
  cnt_ge : ∀ i, i < t.sketch.rows.length → t.sketch.ctr i (t.sketch.posN i h0) ≤ r.cnt h0

theorem not_has_of_clear_bits (t : TinyLfu) (hwf : t.WF) (h : UInt64) (hb : ∀ j, t.door.bit j = false) : ¬ Has t h := by
  intro hc
  have := hc (t.door.idxOf h 0) ⟨0, hwf.dk.locs_pos, rfl⟩
  rw [hb] at this; cases this

/-! Each operation keeps `Sim`, and on top of `Sim` it keeps `Up` (at the hash it records, if it records one): `reset_rel`,
    `tryReset_rel`, `clear_rel` here, `increment_rel` below, after `access_spec`. -/

theorem reset_rel (t : TinyLfu) (r : Ref) (hwf : t.WF) (hs : Sim t r) :
    Sim t.reset r.reset ∧ ∀ h0, Up t r h0 → Up t.reset r.reset h0 := by
  have rs := reset_spec t hwf
  refine ⟨⟨rs.w, fun h hd => Bool.noConfusion hd, fun h i hi => ?_⟩,
    fun h0 hu => ⟨fun hh => absurd hh (not_has_of_clear_bits _ rs.wf h0 rs.bit), fun i hi => ?_⟩⟩
  · rw [rs.ctr]; exact Nat.div_le_div_right (hs.cnt_le h i (rs.geo.depth ▸ hi))
  · rw [rs.ctr]; exact Nat.div_le_div_right (hu.cnt_ge i (rs.geo.depth ▸ hi))

theorem tryReset_rel (t : TinyLfu) (r : Ref) (hwf : t.WF) (hs : Sim t r) :
    Sim t.tryReset (r.tryReset t.samples) ∧ ∀ h0, Up t r h0 → Up t.tryReset (r.tryReset t.samples) h0 := by
  rw [tryReset_eq, Ref.tryReset, hs.w_eq]
  by_cases hc : r.w + 1 ≥ t.samples
  · rw [if_pos hc, if_pos hc]; exact reset_rel t r hwf hs
  · rw [if_neg hc, if_neg hc]; exact ⟨⟨rfl, hs.door_le, hs.cnt_le⟩, fun _ hu => ⟨hu.door_ge, hu.cnt_ge⟩⟩

theorem clear_rel (t : TinyLfu) (hwf : t.WF) : Sim t.clear Ref.zero ∧ ∀ h0, Up t.clear Ref.zero h0 := by
  have cs := clear_spec t hwf
  exact ⟨⟨cs.w, fun h hd => Bool.noConfusion hd, fun h i hi => Nat.zero_le _⟩,
    fun h0 => ⟨fun hh => absurd hh (not_has_of_clear_bits _ cs.wf h0 cs.bit), fun i _ => by rw [cs.ctr]; exact Nat.le_refl _⟩⟩

theorem estimate_bounds (t : TinyLfu) (r : Ref) (hwf : t.WF) (hs : Sim t r) (h : UInt64) :
    ∃ e, t.estimate h = .ok e ∧ r.estimate h ≤ e ∧ e ≤ 16 := by
  obtain ⟨e, b, he, hb, h15, hle, ⟨i, hi, hex⟩⟩ := estimate_spec t hwf h
  refine ⟨_, he, ?_, by split <;> omega⟩
  unfold Ref.estimate
  have hc := hs.cnt_le h i hi
  cases hd : r.door h with
  | true =>
    have := hb.2 (hs.door_le h hd)
    simp only [this, if_true]; omega
  | false =>
    simp only [Bool.false_eq_true, if_false]
    split <;> omega

theorem contains_of_ref (t : TinyLfu) (r : Ref) (hwf : t.WF) (hs : Sim t r) (h : UInt64) (hd : r.door h = true) :
    t.contains h = .ok true := by
  obtain ⟨b, hb, hiff⟩ := contains_spec t hwf h
  rw [hb, hiff.2 (hs.door_le h hd)]

/-- the reference's `increment` before its final `tryReset`, in one piece: `h` is seen, and its count goes up if it had
    been seen before -/
def Ref.access (r : Ref) (h : UInt64) : Ref :=
  { cnt := fun x => if x = h ∧ r.door h = true then min 15 (r.cnt h + 1) else r.cnt x,
    door := fun x => r.door x || decide (x = h), w := r.w }

theorem Ref.increment_eq (r : Ref) (samples : Nat) (h : UInt64) : r.increment samples h = (r.access h).tryReset samples := by
  unfold Ref.increment Ref.access
  cases hd : r.door h <;> simp only [Bool.false_eq_true, if_false, if_true, and_false, and_true]
  · congr; funext x; by_cases hx : x = h <;> simp [hx]
  · congr; funext x; by_cases hx : x = h <;> simp [hx, hd]

/-- `t1` is the estimator before the final `tryReset` of `increment h`. In both branches it is `t` with new words or new
    rows, so its geometry is that of `t` by computation and both relations are read off the branch's own specification -/
theorem access_spec (t : TinyLfu) (hwf : t.WF) (h : UInt64) :
    ∃ t1, t.increment h = .ok t1.tryReset ∧ t1.WF ∧ SameGeo t t1 ∧
      ∀ r, Sim t r → Sim t1 (r.access h) ∧ (Up t r h → Up t1 (r.access h) h) := by
  obtain ⟨b, hb, hiff⟩ := Bloom.contains_spec t.door hwf.dk h
  unfold TinyLfu.increment Bloom.containsOrAdd
  simp only [hb]
  cases b with
  | false =>
    -- a miss: the doorkeeper gains the probes of `h`; by `Sim` the reference has not seen `h` either, so no count moves
    obtain ⟨bs, hadd, hlen, hbits⟩ := Bloom.add_spec t.door hwf.dk h
    simp only [hadd]
    refine ⟨{ t with door := { t.door with bits := bs } }, rfl, ⟨hwf.sk, hwf.dk.bits hlen⟩, ⟨rfl, rfl, rfl, rfl, rfl, rfl, hlen, rfl⟩,
      fun r hs => ?_⟩
    have hcnt : ∀ x, (r.access h).cnt x = r.cnt x := fun x => if_neg fun hc => Bool.false_ne_true (hiff.2 (hs.door_le h hc.2))
    refine ⟨⟨hs.w_eq, fun x hx j hj => (hbits j).2 ?_, fun x i hi => ?_⟩, fun hu => ⟨fun _ => by simp [Ref.access], fun i hi => ?_⟩⟩
    · rcases Bool.or_eq_true _ _ ▸ hx with hx | hx
      · exact .inl (hs.door_le x hx j hj)
      · exact .inr (of_decide_eq_true hx ▸ hj)
    · rw [hcnt x]; exact hs.cnt_le x i hi
    · rw [hcnt h]; exact hu.cnt_ge i hi
  | true =>
    -- a hit: in every row the counter of `h` goes up by one unless saturated, and no counter goes down
    have hhas : Has t h := hiff.1 rfl
    obtain ⟨rows', hinc, hswf, hl, hctr⟩ := Sketch.increment_spec t.sketch hwf.sk h
    simp only [hinc]
    refine ⟨{ t with sketch := { t.sketch with rows := rows' } }, rfl, ⟨hswf, hwf.dk⟩, ⟨rfl, rfl, hl, rfl, rfl, rfl, rfl, rfl⟩,
      fun r hs => ⟨⟨hs.w_eq, fun x hx => ?_, fun x i hi => ?_⟩,
        fun hu => ⟨fun _ => Bool.or_eq_true _ _ ▸ .inl (hu.door_ge hhas), fun i hi => ?_⟩⟩⟩
    · rcases Bool.or_eq_true _ _ ▸ hx with hx | hx
      · exact hs.door_le x hx
      · exact of_decide_eq_true hx ▸ hhas
    · have hi' : i < t.sketch.rows.length := hl ▸ hi
      have hx := hs.cnt_le x i hi'
      have := Sketch.ctr_le t.sketch i (t.sketch.posN i x)
      show (if x = h ∧ r.door h = true then _ else _) ≤ Sketch.ctr _ i (t.sketch.posN i x)
      rw [hctr i hi']
      split
      · next hc => obtain ⟨rfl, -⟩ := hc; rw [if_pos rfl]; omega
      · split <;> omega
    · have hi' : i < t.sketch.rows.length := hl ▸ hi
      have := hu.cnt_ge i hi'
      show Sketch.ctr _ i (t.sketch.posN i h) ≤ (if h = h ∧ r.door h = true then _ else _)
      rw [hctr i hi', if_pos rfl, if_pos ⟨rfl, hu.door_ge hhas⟩]; omega

theorem increment_total (t : TinyLfu) (hwf : t.WF) (h : UInt64) :
    ∃ t', t.increment h = .ok t' ∧ t'.WF ∧ SameGeo t t' := by
  obtain ⟨t1, hinc, hwf1, hgeo, _⟩ := access_spec t hwf h
  have := tryReset_wf t1 hwf1
  exact ⟨_, hinc, this.1, hgeo.trans this.2⟩

theorem increment_rel (t : TinyLfu) (r : Ref) (hwf : t.WF) (hs : Sim t r) (h : UInt64) (t' : TinyLfu)
    (hi : t.increment h = .ok t') :
    Sim t' (r.increment t.samples h) ∧ (Up t r h → Up t' (r.increment t.samples h) h) := by
  obtain ⟨t1, hinc, hwf1, hgeo, hrel⟩ := access_spec t hwf h
  cases hinc.symm.trans hi
  rw [Ref.increment_eq, ← hgeo.samples]
  have tr := tryReset_rel t1 _ hwf1 (hrel r hs).1
  exact ⟨tr.1, fun hu => tr.2 h ((hrel r hs).2 hu)⟩

theorem estimate_exact (t : TinyLfu) (r : Ref) (h0 : UInt64) (hwf : t.WF) (hs : Sim t r) (hu : Up t r h0) :
    t.estimate h0 = .ok (r.estimate h0) := by
  obtain ⟨e, b, he, hb, _, _, ⟨i, hi, hex⟩⟩ := estimate_spec t hwf h0
  have hcnt : e = r.cnt h0 := hex ▸ Nat.le_antisymm (hu.cnt_ge i hi) (hs.cnt_le h0 i hi)
  have hdoor : b = r.door h0 := Bool.eq_iff_iff.2 (hb.trans ⟨hu.door_ge, hs.door_le h0⟩)
  rw [he, hcnt, hdoor]; rfl

end TinyLfu
end M
