/- Ownership conservation (C04), the shared part: `held`, the objects a list owns; the counting readings of a flow
   (`Flow.put_count`, `Flow.get_count`); and what one successful call of each RawLRU primitive does to the objects. -/
import Caches.Lemmas.RawLru
set_option linter.unusedSectionVars false
namespace M
variable {κ ν : Type} [DecidableEq κ] [DecidableEq ν]

def held (l : AL κ ν) : List (Obj κ ν) := l.flatMap dropEnt

theorem held_nil : held ([] : AL κ ν) = [] := rfl
theorem held_cons (e : κ × ν) (t : AL κ ν) : held (e :: t) = [Obj.key e.1, Obj.val e.2] ++ held t := by
  simp [held, dropEnt]
theorem held_append (a b : AL κ ν) : held (a ++ b) = held a ++ held b := by simp [held]

theorem held_perm {A B : AL κ ν} (h : A.Perm B) (o : Obj κ ν) : (held A).count o = (held B).count o :=
  (h.flatMap_right dropEnt).count_eq o

theorem held_erase (l : AL κ ν) (k : κ) (old : ν) (h : find k l = some old) (o : Obj κ ν) :
    (held l).count o = (held (erase k l)).count o + ([Obj.key k, Obj.val old] : List (Obj κ ν)).count o := by
  rw [← held_perm (perm_erase h) o, held_cons, List.count_append, Nat.add_comm]

theorem held_dropLast (l : AL κ ν) (e : κ × ν) (h : l.getLast? = some e) (o : Obj κ ν) :
    (held l).count o = (held l.dropLast).count o + ([Obj.key e.1, Obj.val e.2] : List (Obj κ ν)).count o := by
  obtain ⟨ys, rfl⟩ := List.getLast?_eq_some_iff.1 h
  simp [held, dropEnt, List.flatMap_append, List.count_append]

def objsE : Option (κ × ν) → List (Obj κ ν)
  | some e => dropEnt e
  | none => []
def objsV : Option ν → List (Obj κ ν)
  | some v => [Obj.val v]
  | none => []

/-- a write through a returned `&mut V`: the new value enters, the old one is released by the assignment -/
def wrIn : Option ν → Option ν → List (Obj κ ν)
  | some _, some x => [Obj.val x]
  | _, _ => []
def wrOut : Option ν → Option ν → List (Obj κ ν)
  | some old, some _ => [Obj.val old]
  | _, _ => []

theorem wrIn_none (r : Option ν) : (wrIn r none : List (Obj κ ν)) = [] := by cases r <;> rfl
theorem wrOut_none (r : Option ν) : (wrOut r none : List (Obj κ ν)) = [] := by cases r <;> rfl

/-! ### conservation read off a flow: lists that hold the same entries hold the same objects (`held_perm`) -/

theorem Flow.put_count {k : κ} {v : ν} {A A' : AL κ ν} {ev : Option (κ × ν)} (hf : Flow k [(k, v)] A A' ev.toList)
    (o : Obj κ ν) :
    (held A).count o + ([Obj.key k, Obj.val v] : List (Obj κ ν)).count o =
      (held A').count o + (PutResult.of (find k A) ev).drops.count o + ((PutResult.of (find k A) ev).keyBack k).count o := by
  have h1 := held_perm hf o
  cases hk : find k A with
  | none =>
    rw [erase_of_find_none hk] at h1
    cases ev <;> simp only [PutResult.of, PutResult.drops, PutResult.keyBack, Option.toList, held_append, held_cons, held_nil,
      List.count_append, List.count_cons, List.count_nil] at h1 ⊢ <;> omega
  | some old =>
    have h2 := held_erase A k old hk o
    cases ev <;> simp only [PutResult.of, PutResult.drops, PutResult.keyBack, Option.toList, held_append, held_cons, held_nil,
      List.count_append, List.count_cons, List.count_nil] at h1 h2 ⊢ <;> omega

theorem Flow.get_count {k : κ} {w : Option ν} {A A' : AL κ ν}
    (hf : Flow k ((find k A).map fun old => (k, w.getD old)).toList A A' []) (o : Obj κ ν) :
    (held A).count o + (wrIn (find k A) w : List (Obj κ ν)).count o =
      (held A').count o + (wrOut (find k A) w : List (Obj κ ν)).count o := by
  cases hk : find k A with
  | none =>
    rw [hk, Flow, erase_of_find_none hk] at hf
    simpa [wrIn, wrOut] using held_perm hf o
  | some old =>
    rw [hk] at hf
    have h1 := held_perm hf o
    have h2 := held_erase A k old hk o
    cases w <;> simp only [wrIn, wrOut, Option.map, Option.toList, Option.getD, held_append, held_cons, held_nil,
      List.count_append, List.count_cons, List.count_nil] at h1 h2 ⊢ <;> omega

/-! ### the primitives

Where a primitive is walked: the cases of `fun_cases` are the ways the operation computes its result, `rintro ⟨⟩` puts that result in place of the one
named in `h` (a fault ends the case), and `‹_›` hands a lemma the case's own hypothesis about the call it speaks of.
The composite caches are walked the same way. -/
namespace RawLru
variable {c c' : RawLru κ ν}

theorem removeEnt_count {k : κ} {e : κ × ν} (h : c.removeEnt k = some (e, c')) (o : Obj κ ν) :
    (held c.items).count o = (held c'.items).count o + (dropEnt e).count o := by
  revert h
  fun_cases RawLru.removeEnt c k <;> rintro ⟨⟩
  exact held_erase _ k _ ‹_› o

theorem removeLruIn_count {e : κ × ν} (h : c.removeLruIn = some (e, c')) (o : Obj κ ν) :
    (held c.items).count o = (held c'.items).count o + (dropEnt e).count o := by
  revert h
  fun_cases RawLru.removeLruIn c <;> rintro ⟨⟩
  exact held_dropLast _ _ ‹_› o

theorem putOrEvict_count (c c' : RawLru κ ν) (e : κ × ν) (out : Option (κ × ν))
    (h : c.putOrEvict e = .ok (out, c')) (o : Obj κ ν) :
    (held c.items).count o + (dropEnt e).count o =
      (held c'.items).count o + (objsE out).count o := by
  revert h
  fun_cases RawLru.putOrEvict c e <;> rintro ⟨⟩
  · have := held_dropLast _ _ ‹_› o
    simp only [held_cons, List.count_append, dropEnt, objsE] at this ⊢; omega
  · simp only [held_cons, List.count_append, dropEnt, objsE, List.count_nil]; omega

theorem putNonnull_count {e : κ × ν} {r : PutResult κ ν} (h : c.putNonnull e = .ok (r, c')) (o : Obj κ ν) :
    (held c.items).count o + (dropEnt e).count o = (held c'.items).count o + r.drops.count o := by
  revert h
  fun_cases RawLru.putNonnull c e <;> rintro ⟨⟩
  · have := held_dropLast _ _ ‹_› o
    simp only [held_cons, List.count_append, dropEnt, PutResult.drops] at this ⊢; omega
  · simp only [held_cons, List.count_append, dropEnt, PutResult.drops, List.count_nil]; omega

theorem update_count (c : RawLru κ ν) (k : κ) (v old : ν) (hf : find k c.items = some old) (o : Obj κ ν) :
    (held c.items).count o + ([Obj.val v] : List (Obj κ ν)).count o =
      (held (c.update k v).items).count o + ([Obj.val old] : List (Obj κ ν)).count o := by
  have := held_erase _ k old hf o
  simp only [RawLru.update, use, held_cons, List.count_append, List.count_cons, List.count_nil] at this ⊢; omega

theorem getMut_count {k : κ} {w r : Option ν} (h : c.getMut k w = (c', r)) (o : Obj κ ν) :
    (held c.items).count o + (wrIn r w : List (Obj κ ν)).count o =
      (held c'.items).count o + (wrOut r w : List (Obj κ ν)).count o := by
  obtain ⟨l, hl, hf⟩ := getMut_flow c k w
  have hr : (c.getMut k w).2 = find k c.items := by unfold RawLru.getMut; cases find k c.items <;> rfl
  rw [h] at hl hr
  cases hl; cases hr
  exact hf.get_count o

theorem remove_count {k : κ} {r : Option ν} {e : Eff κ ν} (h : c.remove k = (c', r, e)) (o : Obj κ ν) :
    (held c.items).count o = (held c'.items).count o + (objsV r).count o + e.drops.count o := by
  revert h
  fun_cases RawLru.remove c k <;> rintro ⟨⟩
  · have := held_erase _ k _ ‹_› o
    simp only [objsV, List.count_cons, List.count_nil] at this ⊢; omega
  · rfl

theorem removeLru_count {r : Option (κ × ν)} {e : Eff κ ν} (h : c.removeLru = (c', r, e)) (o : Obj κ ν) :
    (held c.items).count o = (held c'.items).count o + (objsE r).count o := by
  revert h
  fun_cases RawLru.removeLru c <;> rintro ⟨⟩
  · exact removeLruIn_count ‹_› o
  · rfl

/-- what `purge` drops (`purge_spec`) is what was held, least recent first -/
theorem count_purge_drops (c : RawLru κ ν) (o : Obj κ ν) :
    (goneEff c c.items.reverse).drops.count o = (held c.items).count o :=
  held_perm (List.reverse_perm _) o

end RawLru

end M
