/- The 2Q policy as flows of entries. `put` moves entries on two levels: the resident lists `R ++ F` take the written
   entry and, when full, give up a victim; the ghost list `G` takes that victim and, when full, gives up its own least
   recent entry for good. The two stages (`victim_perm`, `pushGhost_perm`) are proved on their own and `put_flow`
   composes them, so the cases of the stages add up instead of multiplying. -/
import Caches.Lemmas.Flow
import Caches.Props.TwoQMachine
set_option linter.unusedSectionVars false
namespace M
open List
variable {κ ν : Type} [DecidableEq κ]

namespace TwoQSpec

structure WF (R F G : AL κ ν) (size gcap : Nat) : Prop where
  nd : (keys (R ++ F ++ G)).Nodup
  bound : R.length + F.length ≤ size
  gbound : G.length ≤ gcap
  spos : 0 < size
  gpos : 0 < gcap

variable {R F G R' F' G' : AL κ ν} {size rs gcap : Nat} {k : κ}

theorem WF.ndrf (h : WF R F G size gcap) : (keys (R ++ F)).Nodup := nodup_keys_left h.nd

/-- the victim and what is left of the two queues. The three `if`s are the policy's own text, so that a caller rewrites
    them away with `simp only [hv, e1, e2]` whichever queue gave the victim. -/
theorem victim_perm (b : Bool) (h : 0 < R.length + F.length) :
    ∃ vic R1 F1, (if fromRecent R F rs b then R.getLast? else F.getLast?) = some vic ∧
      (if fromRecent R F rs b then R.dropLast else R) = R1 ∧ (if fromRecent R F rs b then F else F.dropLast) = F1 ∧
      R ++ F ~ R1 ++ F1 ++ [vic] ∧ R1.length + F1.length + 1 = R.length + F.length := by
  letI := Classical.typeDecidableEq ν
  cases hfr : fromRecent R F rs b with
  | true =>
    have : 0 < R.length := by simp [fromRecent] at hfr; omega
    obtain ⟨vic, hl⟩ := getLast?_some_of_pos R this
    refine ⟨vic, _, _, hl, rfl, rfl, perm_iff_count.2 fun x => ?_, by simp only [if_true, length_dropLast]; omega⟩
    simp only [if_true, count_dropLast hl, count_append]; omega
  | false =>
    have : 0 < F.length := by
      by_cases hr : 0 < R.length
      · simp [fromRecent, hr] at hfr; exact length_pos_iff.2 hfr.2
      · omega
    obtain ⟨vic, hl⟩ := getLast?_some_of_pos F this
    refine ⟨vic, _, _, hl, rfl, rfl, perm_iff_count.2 fun x => ?_,
      by simp only [Bool.false_eq_true, if_false, length_dropLast]; omega⟩
    simp only [Bool.false_eq_true, if_false, count_dropLast hl, count_append]; omega

theorem WF.nd_victim {R1 F1 : AL κ ν} {vic : κ × ν} (h : WF R F G size gcap) (hperm : R ++ F ~ R1 ++ F1 ++ [vic]) :
    (keys (vic :: G)).Nodup :=
  (((singleton_sublist.2 (hperm.mem_iff.2 (by simp))).append (Sublist.refl G)).map _).nodup h.nd

theorem pushGhost_eq (G : AL κ ν) (gcap : Nat) (vic : κ × ν) : pushGhost G gcap vic = push gcap vic G := rfl

theorem pushGhost_perm (vic : κ × ν) (hp : 0 < gcap) (hb : G.length ≤ gcap) :
    vic :: G ~ (pushGhost G gcap vic).1 ++ (pushGhost G gcap vic).2.toList ∧ (pushGhost G gcap vic).1.length ≤ gcap :=
  ⟨.of_eq (push_eq gcap vic G), length_push hp hb vic⟩

/-- pushing a victim onto a ghost list that remembers `k`: the ghost of `k` survives, or it is the very entry pushed out -/
theorem pushGhost_find {vic : κ × ν} {G1 : AL κ ν} {d : Option (κ × ν)} {old : ν} (nd : (keys (vic :: G)).Nodup)
    (hg : find k G = some old) (hperm : vic :: G ~ G1 ++ d.toList) :
    (find k G1 = some old ∧ ∀ g, d = some g → g.1 ≠ k) ∨ (find k G1 = none ∧ d = some (k, old)) := by
  have nd1 : (keys (G1 ++ d.toList)).Nodup := ((hperm.map Prod.fst).nodup_iff).1 nd
  have hm : (k, old) ∈ G1 ++ d.toList := hperm.mem_iff.1 (mem_cons_of_mem _ (find_mem hg))
  rw [keys_append, nodup_append_iff] at nd1
  rcases mem_append.1 hm with h1 | h1
  · refine .inl ⟨(find_iff_mem k old G1 nd1.1).2 h1, fun g hd hc => ?_⟩
    exact nd1.2.2 k (mem_keys_of_mem h1) (hc ▸ mem_keys_of_mem (e := g) (by simp [hd]))
  · have hd : d = some (k, old) := by cases d <;> simp at h1 ⊢ <;> exact h1.symm
    refine .inr ⟨(find_none_iff k G1).2 fun hc => ?_, hd⟩
    exact nd1.2.2 k hc (mem_keys_of_mem h1)

theorem put_flow (h : WF R F G size gcap) (rs : Nat) (k : κ) (v : ν) :
    let r := put R F G size rs gcap k v
    ∃ vic ev : Option (κ × ν), r.2.2.2 = .of (find k (R ++ F ++ G)) ev ∧
      Flow k [(k, v)] (R ++ F) (r.1 ++ r.2.1) vic.toList ∧ Flow k vic.toList G r.2.2.1 ev.toList ∧
      (if (find k (R ++ F ++ G)).isSome then r.2.1 else r.1).head? = some (k, v) ∧
      r.1.length + r.2.1.length ≤ size ∧ r.2.2.1.length ≤ gcap := by
  letI := Classical.typeDecidableEq ν
  have ⟨nd, hb, hgb, hsp, hgp⟩ := h
  unfold put
  cases hf : find k F with
  | some old =>
    have hr := find_left_none h.ndrf hf
    have hrf : find k (R ++ F) = some old := by simp [find_append, hr, hf]
    have hg := find_right_none nd hrf
    have := length_erase_of_find hf
    simp only [find_append k _ G, hrf]
    refine ⟨none, none, rfl, ?_, .miss hg, rfl, by simp only [length_cons]; omega, hgb⟩
    exact Flow.hit_right _ hr F
  | none =>
  cases hr : find k R with
  | some old =>
    have hrf : find k (R ++ F) = some old := by simp [find_append, hr]
    have hg := find_right_none nd hrf
    have := length_erase_of_find hr
    simp only [find_append k _ G, hrf]
    refine ⟨none, none, rfl, ?_, .miss hg, rfl, by simp only [length_cons]; omega, hgb⟩
    exact Flow.hit_left _ hr F
  | none =>
  have hrf : find k (R ++ F) = none := by simp [find_append, hr, hf]
  simp only [find_append k _ G, hrf, Option.none_or]
  cases hg : find k G with
  | some old =>
    by_cases hfull : R.length + F.length ≥ size
    · obtain ⟨vic, R1, F1, hv, e1, e2, hperm, hlen⟩ := victim_perm (R := R) (F := F) (rs := rs) false (by omega)
      simp only [hfull, decide_true, if_true, hv, e1, e2]
      rcases hpg : pushGhost G gcap vic with ⟨G1, d⟩
      obtain ⟨hgperm, hgl⟩ := hpg ▸ pushGhost_perm vic hgp hgb
      have hres : Flow k [(k, v)] (R ++ F) (R1 ++ (k, v) :: F1) [vic] := perm_iff_count.2 fun x => by
        have := hperm.count_eq x
        simp only [erase_of_find_none hrf, count_append, count_cons, count_nil] at this ⊢; omega
      have hgl' := Nat.le_trans (length_erase_le k G1) hgl
      rcases pushGhost_find (h.nd_victim hperm) hg hgperm with ⟨h1, h2⟩ | ⟨h1, rfl⟩
      · refine ⟨some vic, d, ?_, hres, perm_iff_count.2 fun x => ?_, rfl, by simp only [length_cons]; omega, hgl'⟩
        · cases d with
          | none => rfl
          | some g => simp [PutResult.of, h2 g rfl]
        · have := hgperm.count_eq x
          simp only [Option.toList, count_erase hg x, count_erase h1 x, count_append, count_cons, count_nil] at this ⊢
          omega
      · refine ⟨some vic, none, by simp [PutResult.of], hres, perm_iff_count.2 fun x => ?_, rfl,
          by simp only [length_cons]; omega, hgl'⟩
        have := hgperm.count_eq x
        simp only [Option.toList, count_erase hg x, erase_of_find_none h1, count_append, count_cons, count_nil] at this ⊢
        omega
    · simp only [hfull, decide_false, Bool.false_eq_true, if_false]
      exact ⟨none, none, rfl, by simpa [Flow, erase_of_find_none hrf] using perm_middle.symm, .of_erase k G, rfl,
        by simp only [length_cons]; omega, Nat.le_trans (length_erase_le k G) hgb⟩
  | none =>
    by_cases hfull : R.length + F.length ≥ size
    · obtain ⟨vic, R1, F1, hv, e1, e2, hperm, hlen⟩ := victim_perm (R := R) (F := F) (rs := rs) true (by omega)
      obtain ⟨hgperm, hgl⟩ := pushGhost_perm vic hgp hgb
      simp only [hfull, decide_true, if_true, hv, e1, e2]
      refine ⟨some vic, (pushGhost G gcap vic).2, by cases (pushGhost G gcap vic).2 <;> rfl, perm_iff_count.2 fun x => ?_,
        by simpa [Flow, erase_of_find_none hg] using hgperm, rfl, by simp only [length_cons]; omega, hgl⟩
      have := hperm.count_eq x
      simp only [erase_of_find_none hrf, Option.toList, count_append, count_cons, count_nil] at this ⊢; omega
    · simp only [hfull, decide_false, Bool.false_eq_true, if_false]
      exact ⟨none, none, rfl, by simp [Flow, erase_of_find_none hrf], .miss hg, rfl,
        by simp only [length_cons]; omega, hgb⟩

theorem get_flow (h : WF R F G size gcap) (k : κ) (w : Option ν) :
    let r := get R F G k w
    r.2.2.2 = find k (R ++ F) ∧
      Flow k ((find k (R ++ F)).map fun old => (k, w.getD old)).toList (R ++ F) (r.1 ++ r.2.1) [] ∧ r.2.2.1 = G := by
  unfold get
  rw [find_append]
  cases hf : find k F with
  | some old =>
    have hr := find_left_none h.ndrf hf
    rw [hr]
    exact ⟨rfl, Flow.hit_right _ hr F, rfl⟩
  | none =>
    cases hr : find k R with
    | some old => exact ⟨rfl, Flow.hit_left _ hr F, rfl⟩
    | none => exact ⟨rfl, by simp [Flow, erase_append_right hr, erase_of_find_none hf], rfl⟩

theorem remove_eq (nd : (keys (R ++ F ++ G)).Nodup) (k : κ) :
    remove R F G k = (erase k R, erase k F, erase k G, find k (R ++ F ++ G)) := by
  have ndrf : (keys (R ++ F)).Nodup := nodup_keys_left nd
  unfold remove
  cases hf : find k F with
  | some old =>
    have hr := find_left_none ndrf hf
    have hg : find k G = none := find_right_none nd (show find k (R ++ F) = some old by simp [find_append, hr, hf])
    simp [find_append, hr, hf, erase_of_find_none hr, erase_of_find_none hg]
  | none =>
    cases hr : find k R with
    | some old =>
      have hg : find k G = none := find_right_none nd (show find k (R ++ F) = some old by simp [find_append, hr])
      simp [find_append, hr, erase_of_find_none hf, erase_of_find_none hg]
    | none =>
      cases hg : find k G <;> simp [find_append, hr, hf, hg, erase_of_find_none hr, erase_of_find_none hf, erase_of_find_none]

theorem peekMut_eq (nd : (keys (R ++ F)).Nodup) (G : AL κ ν) (k : κ) (w : Option ν) :
    peekMut R F G k w = (writeAt k w R, writeAt k w F, G) := by
  unfold peekMut writeAt
  cases hf : find k F with
  | some old => cases w <;> simp only [setVal_of_find_none _ (find_left_none nd hf)]
  | none =>
    cases hr : find k R with
    | some old => cases w <;> simp only [setVal_of_find_none _ hf]
    | none => cases w <;> simp only [setVal_of_find_none _ hf, setVal_of_find_none _ hr]

theorem WF.of_flow {ins mid outs : AL κ ν} (h : WF R F G size gcap) (h₁ : Flow k ins (R ++ F) (R' ++ F') mid)
    (h₂ : Flow k mid G G' outs) (hk : ins = [] ∨ ∃ v, ins = [(k, v)]) (hb : R'.length + F'.length ≤ size)
    (hg : G'.length ≤ gcap) : WF R' F' G' size gcap :=
  ⟨(h₁.comp h₂ h.nd).nodup_left h.nd hk, hb, hg, h.spos, h.gpos⟩

theorem WF.of_keys (h : WF R F G size gcap) (hk : keys (R' ++ F') ~ keys (R ++ F)) : WF R' F' G size gcap := by
  have hl := hk.length_eq
  rw [length_keys, length_keys, length_append, length_append] at hl
  refine ⟨?_, hl ▸ h.bound, h.gbound, h.spos, h.gpos⟩
  have := h.nd
  rw [keys_append] at this ⊢
  exact ((hk.append_right _).nodup_iff).2 this

theorem WF.sub (h : WF R F G size gcap) (hr : R'.Sublist R) (hf : F'.Sublist F) (hg : G'.Sublist G) :
    WF R' F' G' size gcap :=
  ⟨(((hr.append hf).append hg).map _).nodup h.nd,
    Nat.le_trans (Nat.add_le_add hr.length_le hf.length_le) h.bound, Nat.le_trans hg.length_le h.gbound, h.spos, h.gpos⟩

theorem step_wf (h : WF R F G size gcap) (o : CacheOp κ ν) :
    WF (step size rs gcap (R, F, G) o).1 (step size rs gcap (R, F, G) o).2.1 (step size rs gcap (R, F, G) o).2.2
      size gcap := by
  cases o with
  | put k v =>
    obtain ⟨vic, ev, _, h₁, h₂, _, hb, hg⟩ := put_flow h rs k v
    exact h.of_flow h₁ h₂ (.inr ⟨_, rfl⟩) hb hg
  | getMut k w =>
    obtain ⟨_, hf, hG⟩ := get_flow h k w
    simpa only [step, hG] using h.of_keys hf.keys_write
  | peekMut k w =>
    rw [step, peekMut_eq h.ndrf]
    exact h.of_keys (by simp only [keys_append, keys_writeAt]; exact .refl _)
  | remove k =>
    simpa only [step, remove_eq h.nd] using h.sub (erase_sublist ..) (erase_sublist ..) (erase_sublist ..)
  | purge => exact h.sub (nil_sublist _) (nil_sublist _) (nil_sublist _)
  | read => exact h

/-- 2Q: the retained entries are recent ++ frequent ++ ghost; an entry pushed out of the ghost list is the one reported -/
theorem put_truth (h : WF R F G size gcap) (rs : Nat) (k : κ) (v : ν) :
    let r := put R F G size rs gcap k v
    PutTruth (R ++ (F ++ G)) (r.1 ++ (r.2.1 ++ r.2.2.1)) k v r.2.2.2 ∧ (k, v) ∈ r.1 ++ r.2.1 := by
  intro r
  obtain ⟨vic, ev, hr, h₁, h₂, hh, -⟩ := put_flow h rs k v
  have hin : (k, v) ∈ r.1 ++ r.2.1 := by
    split at hh
    · exact List.mem_append_right _ (List.mem_of_mem_head? hh)
    · exact List.mem_append_left _ (List.mem_of_mem_head? hh)
  rw [← List.append_assoc, ← List.append_assoc]
  exact ⟨hr ▸ .of_flow h.nd (h₁.comp h₂ h.nd) (List.mem_append_left _ hin), hin⟩

end TwoQSpec
end M
