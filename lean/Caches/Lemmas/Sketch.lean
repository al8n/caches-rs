/- The packed counter rows and the count-min sketch through an abstract counter view `ctr`: point-wise effect of
   increment / reset / clear, and well-formedness (no index out of bounds). At the end the geometry of `Sketch.new`:
   the counter count is `nextPow2` of the width, raised to 2 if below; from 2 on `nextPow2` is even, because its smearing
   steps double a run of ones (`run_or_shiftRight`, `nextPow2_even`), so rows and mask fit (`new_geometry`). -/
import Caches.Model.Sketch
set_option linter.unusedVariables false
namespace M

theorem Nib.inc_spec : ∀ b, b < 256 → ∀ odd : Bool,
    Nib.inc b odd < 256 ∧ Nib.get (Nib.inc b odd) odd = min 15 (Nib.get b odd + 1) ∧
    Nib.get (Nib.inc b odd) (!odd) = Nib.get b (!odd) := by decide +kernel
theorem Nib.halve_spec : ∀ b, b < 256 → ∀ odd : Bool,
    Nib.halve b < 256 ∧ Nib.get (Nib.halve b) odd = Nib.get b odd / 2 := by decide +kernel
theorem Nib.get_le (b : Nat) (odd : Bool) : Nib.get b odd ≤ 15 := Nat.and_le_right
theorem Nib.get_zero (odd : Bool) : Nib.get 0 odd = 0 := by cases odd <;> decide

namespace Row

def WF (r : Row) : Prop := ∀ b ∈ r, b < 256

def ctr (r : Row) (i : Nat) : Nat :=
  match r[i / 2]? with
  | none => 0
  | some b => Nib.get b (i % 2 == 1)

theorem get_eq (r : Row) (i : Nat) (h : i / 2 < r.length) : r.get i = .ok (r.ctr i) := by
  unfold Row.get Row.ctr; simp [List.getElem?_eq_getElem h]

theorem ctr_le (r : Row) (i : Nat) : r.ctr i ≤ 15 := by
  unfold Row.ctr; split
  · exact Nat.zero_le _
  · exact Nib.get_le _ _

/-- two counters of one byte that are not the same counter are its two nibbles -/
theorem odd_flip {a b : Nat} (h : a % 2 ≠ b % 2) : (a % 2 == 1) = !(b % 2 == 1) := by
  rcases Nat.mod_two_eq_zero_or_one a with h1 | h1 <;> rcases Nat.mod_two_eq_zero_or_one b with h2 | h2 <;> simp_all

theorem inc_spec (r : Row) (c : Nat) (hwf : r.WF) (h : c / 2 < r.length) :
    ∃ r', r.inc c = .ok r' ∧ r'.WF ∧ r'.length = r.length ∧
      ∀ c', r'.ctr c' = if c' = c then min 15 (r.ctr c' + 1) else r.ctr c' := by
  unfold Row.inc
  have hb : r[c / 2] < 256 := hwf _ (List.getElem_mem h)
  have sp := Nib.inc_spec _ hb (c % 2 == 1)
  refine ⟨r.set (c / 2) (Nib.inc r[c / 2] (c % 2 == 1)), by simp [List.getElem?_eq_getElem h], ?_, by simp, ?_⟩
  · intro b hbm
    rcases List.mem_or_eq_of_mem_set hbm with hm | he
    · exact hwf _ hm
    · rw [he]; exact sp.1
  · intro c'
    unfold Row.ctr
    by_cases hsame : c' / 2 = c / 2
    · rw [hsame]
      simp only [List.getElem?_set_self h, List.getElem?_eq_getElem h]
      by_cases hcc : c' = c
      · subst hcc; simp only [if_true]; exact sp.2.1
      · simp only [hcc, if_false]; rw [odd_flip (a := c') (b := c) (by omega), sp.2.2]
    · have hne : c' ≠ c := fun hc => hsame (by rw [hc])
      simp only [List.getElem?_set_ne (Ne.symm hsame), hne, if_false]

theorem map_spec {f g : Nat → Nat} (r : Row)
    (hf : ∀ b ∈ r, ∀ odd, f b < 256 ∧ Nib.get (f b) odd = g (Nib.get b odd)) (g0 : g 0 = 0) :
    WF (r.map f) ∧ (r.map f).length = r.length ∧ ∀ c, ctr (r.map f) c = g (r.ctr c) := by
  refine ⟨fun b hb => ?_, List.length_map _, fun c => ?_⟩
  · obtain ⟨a, ha, rfl⟩ := List.mem_map.1 hb
    exact (hf a ha true).1
  · unfold Row.ctr
    rw [List.getElem?_map]
    cases hb : r[c / 2]? with
    | none => exact g0.symm
    | some b => exact (hf b (List.mem_of_getElem? hb) _).2

theorem reset_spec (r : Row) (hwf : r.WF) :
    r.reset.WF ∧ r.reset.length = r.length ∧ ∀ c, r.reset.ctr c = r.ctr c / 2 :=
  map_spec (g := (· / 2)) r (fun b hb => Nib.halve_spec b (hwf b hb)) rfl

theorem clear_spec (r : Row) : r.clear.WF ∧ r.clear.length = r.length ∧ ∀ c, r.clear.ctr c = 0 :=
  map_spec (g := fun _ => 0) r (fun _ _ odd => ⟨by decide, Nib.get_zero odd⟩) rfl

theorem new_spec (w : Nat) : (Row.new w).WF ∧ (Row.new w).length = w ∧ ∀ c, (Row.new w).ctr c = 0 := by
  have h := clear_spec (Row.new w)
  rw [show (Row.new w).clear = Row.new w from List.map_replicate] at h
  exact ⟨h.1, List.length_replicate, h.2.2⟩

end Row

namespace Sketch

structure WF (s : Sketch) : Prop where
  rowsWF : ∀ r ∈ s.rows, Row.WF r ∧ s.mask.toNat / 2 < r.length
  seeds : match s.scheme with | .std seeds => s.rows.length ≤ seeds.length | .core => True
  nonempty : s.rows ≠ []

/-- `Scheme.pos` made total; the default 0 (no seed for the row) is excluded by `WF` -/
def posN (s : Sketch) (i : Nat) (h : UInt64) : Nat :=
  match s.scheme.pos s.mask i h with
  | .ok p => p
  | .error _ => 0

def ctr (s : Sketch) (i p : Nat) : Nat :=
  match s.rows[i]? with
  | none => 0
  | some r => r.ctr p

theorem ctr_le (s : Sketch) (i p : Nat) : s.ctr i p ≤ 15 := by
  unfold Sketch.ctr; split
  · exact Nat.zero_le _
  · exact Row.ctr_le _ _

theorem _root_.M.Scheme.pos_le {sch : Scheme} {mask : UInt64} {i : Nat} {h : UInt64} {p : Nat}
    (hp : sch.pos mask i h = .ok p) : p ≤ mask.toNat := by
  unfold Scheme.pos at hp
  (repeat' split at hp) <;> cases hp <;> (rw [UInt64.toNat_and]; exact Nat.and_le_right)

theorem posN_le (s : Sketch) (i : Nat) (h : UInt64) : s.posN i h ≤ s.mask.toNat := by
  unfold posN; split
  · exact Scheme.pos_le ‹_›
  · exact Nat.zero_le _

theorem pos_ok (s : Sketch) (hwf : s.WF) (i : Nat) (hi : i < s.rows.length) (h : UInt64) :
    s.scheme.pos s.mask i h = .ok (s.posN i h) := by
  have key : ∃ p, s.scheme.pos s.mask i h = .ok p := by
    unfold Scheme.pos
    cases hs : s.scheme with
    | std seeds =>
      have := hwf.seeds; rw [hs] at this
      simp only [List.getElem?_eq_getElem (Nat.lt_of_lt_of_le hi this)]; exact ⟨_, rfl⟩
    | core => exact ⟨_, rfl⟩
  obtain ⟨p, hp⟩ := key
  unfold posN; rw [hp]

/-- `increment`, `reset` and `clear` only replace the rows, by as many; stated on `{ s with rows := rows }` so that mask,
    scheme and positions stay by computation -/
theorem WF.rows {s : Sketch} (hwf : s.WF) {rows : List Row} (hlen : rows.length = s.rows.length)
    (h : ∀ r ∈ rows, Row.WF r ∧ s.mask.toNat / 2 < r.length) : WF { s with rows := rows } :=
  ⟨h, by have := hwf.seeds; simp only [hlen]; exact this,
    fun hc => hwf.nonempty (List.length_eq_zero_iff.1 (hlen ▸ congrArg List.length hc))⟩

/-- the invariant of both row loops (`incRows`, `estRows`), on the rows from index `i` on -/
def RowsOk (s : Sketch) (h : UInt64) (i : Nat) (rows : List Row) : Prop :=
  ∀ j r, rows[j]? = some r → r.WF ∧ s.mask.toNat / 2 < r.length ∧ s.scheme.pos s.mask (j + i) h = .ok (s.posN (j + i) h)

theorem RowsOk.of_wf (s : Sketch) (hwf : s.WF) (h : UInt64) : RowsOk s h 0 s.rows := fun j r hj =>
  have hm := hwf.rowsWF r (List.mem_of_getElem? hj)
  ⟨hm.1, hm.2, pos_ok s hwf j (List.getElem?_eq_some_iff.1 hj).1 h⟩

theorem RowsOk.head {s : Sketch} {h : UInt64} {i : Nat} {r : Row} {t : List Row} (H : RowsOk s h i (r :: t)) :
    r.WF ∧ s.posN i h / 2 < r.length ∧ s.scheme.pos s.mask i h = .ok (s.posN i h) := by
  have h0 := H 0 r rfl
  rw [Nat.zero_add] at h0
  exact ⟨h0.1, Nat.lt_of_le_of_lt (Nat.div_le_div_right (posN_le s i h)) h0.2.1, h0.2.2⟩

theorem RowsOk.tail {s : Sketch} {h : UInt64} {i : Nat} {r : Row} {t : List Row} (H : RowsOk s h i (r :: t)) :
    RowsOk s h (i + 1) t := fun j x hj => by
  have := H (j + 1) x hj
  rwa [Nat.add_right_comm] at this

theorem incRows_spec (s : Sketch) (h : UInt64) (rows : List Row) (i : Nat) (H : RowsOk s h i rows) :
    ∃ rows', s.incRows h i rows = .ok rows' ∧ rows'.length = rows.length ∧
      (∀ r ∈ rows', Row.WF r ∧ s.mask.toNat / 2 < r.length) ∧
      ∀ j, j < rows.length → ∀ p, ctr { s with rows := rows' } j p =
        if p = s.posN (j + i) h then min 15 (ctr { s with rows := rows } j p + 1) else ctr { s with rows := rows } j p := by
  induction rows generalizing i with
  | nil => exact ⟨[], rfl, rfl, fun _ hr => absurd hr List.not_mem_nil, fun j hj => absurd hj (Nat.not_lt_zero _)⟩
  | cons r t ih =>
    obtain ⟨hwf, hlt, hpos⟩ := H.head
    obtain ⟨r', hinc, hwf', hlen', hctr⟩ := Row.inc_spec r (s.posN i h) hwf hlt
    obtain ⟨t', ht, htl, htwf, htc⟩ := ih (i + 1) H.tail
    refine ⟨r' :: t', by simp only [incRows, hpos, hinc, ht], congrArg (· + 1) htl, fun x hx => ?_, fun j hj p => ?_⟩
    · rcases List.mem_cons.1 hx with rfl | hx
      · exact ⟨hwf', hlen' ▸ (H 0 r rfl).2.1⟩
      · exact htwf x hx
    · cases j with
      | zero => rw [Nat.zero_add]; exact hctr p
      | succ j => rw [Nat.add_right_comm]; exact htc j (Nat.lt_of_succ_lt_succ hj) p

theorem estRows_spec (s : Sketch) (h : UInt64) (rows : List Row) (i m : Nat) (H : RowsOk s h i rows) :
    ∃ e, s.estRows h i rows m = .ok e ∧ e ≤ m ∧
      (∀ j, j < rows.length → e ≤ ctr { s with rows := rows } j (s.posN (j + i) h)) ∧
      (e = m ∨ ∃ j, j < rows.length ∧ e = ctr { s with rows := rows } j (s.posN (j + i) h)) := by
  induction rows generalizing i m with
  | nil => exact ⟨m, rfl, Nat.le_refl _, fun j hj => absurd hj (Nat.not_lt_zero _), .inl rfl⟩
  | cons r t ih =>
    obtain ⟨hwf, hlt, hpos⟩ := H.head
    obtain ⟨e, he, hem, hej, hex⟩ := ih (i + 1) (if r.ctr (s.posN i h) < m then r.ctr (s.posN i h) else m) H.tail
    have hmin : e ≤ m ∧ e ≤ r.ctr (s.posN i h) := by split at hem <;> omega
    refine ⟨e, by simp only [estRows, hpos, Row.get_eq r _ hlt, he], hmin.1, fun j hj => ?_, ?_⟩
    · cases j with
      | zero => rw [Nat.zero_add]; exact hmin.2
      | succ j => rw [Nat.add_right_comm]; exact hej j (Nat.lt_of_succ_lt_succ hj)
    · rcases hex with hex | ⟨j, hj, hex⟩
      · split at hex
        · exact .inr ⟨0, Nat.zero_lt_succ _, by rw [Nat.zero_add]; exact hex⟩
        · exact .inl hex
      · exact .inr ⟨j + 1, Nat.succ_lt_succ hj, by rw [Nat.add_right_comm]; exact hex⟩

theorem increment_spec (s : Sketch) (hwf : s.WF) (h : UInt64) :
    ∃ rows', s.increment h = .ok { s with rows := rows' } ∧ WF { s with rows := rows' } ∧ rows'.length = s.rows.length ∧
      ∀ i, i < s.rows.length → ∀ p, ctr { s with rows := rows' } i p =
        if p = s.posN i h then min 15 (s.ctr i p + 1) else s.ctr i p := by
  obtain ⟨rows', hinc, hlen, hrw, hctr⟩ := incRows_spec s h s.rows 0 (.of_wf s hwf h)
  exact ⟨rows', by unfold Sketch.increment; simp only [hinc], hwf.rows hlen hrw, hlen, hctr⟩

theorem estimate_spec (s : Sketch) (hwf : s.WF) (h : UInt64) :
    ∃ e, s.estimate h = .ok e ∧ e ≤ 15 ∧ (∀ i, i < s.rows.length → e ≤ s.ctr i (s.posN i h)) ∧
      (∃ i, i < s.rows.length ∧ e = s.ctr i (s.posN i h)) := by
  obtain ⟨e, he, hem, hej, hex⟩ := estRows_spec s h s.rows 0 255 (.of_wf s hwf h)
  have hle0 := hej 0 (List.length_pos_iff.2 hwf.nonempty)
  have hc15 := ctr_le s 0 (s.posN 0 h)
  -- row 0 exists and its counter is at most 15, so the starting value 255 is not the answer
  have h15 : e ≤ 15 := Nat.le_trans hle0 hc15
  exact ⟨e, he, h15, hej, hex.resolve_left fun hc => by omega⟩

theorem mapRows_spec {F : Row → Row} {g : Nat → Nat}
    (hF : ∀ r : Row, r.WF → (F r).WF ∧ (F r).length = r.length ∧ ∀ c, (F r).ctr c = g (r.ctr c)) (g0 : g 0 = 0)
    (s : Sketch) (hwf : s.WF) :
    WF { s with rows := s.rows.map F } ∧ (s.rows.map F).length = s.rows.length ∧
      ∀ i p, ctr { s with rows := s.rows.map F } i p = g (s.ctr i p) := by
  refine ⟨hwf.rows (List.length_map _) fun r hr => ?_, List.length_map _, fun i p => ?_⟩
  · obtain ⟨r0, hr0, rfl⟩ := List.mem_map.1 hr
    have h0 := hwf.rowsWF r0 hr0
    have sp := hF r0 h0.1
    exact ⟨sp.1, sp.2.1 ▸ h0.2⟩
  · unfold Sketch.ctr
    simp only [List.getElem?_map]
    cases hr : s.rows[i]? with
    | none => exact g0.symm
    | some r => exact (hF r (hwf.rowsWF r (List.mem_of_getElem? hr)).1).2.2 p

theorem reset_spec (s : Sketch) (hwf : s.WF) :
    s.reset.WF ∧ s.reset.rows.length = s.rows.length ∧ ∀ i p, s.reset.ctr i p = s.ctr i p / 2 :=
  mapRows_spec (g := (· / 2)) Row.reset_spec rfl s hwf

theorem clear_spec (s : Sketch) (hwf : s.WF) :
    s.clear.WF ∧ s.clear.rows.length = s.rows.length ∧ ∀ i p, s.clear.ctr i p = 0 :=
  mapRows_spec (g := fun _ => 0) (fun r _ => Row.clear_spec r) rfl s hwf

end Sketch

/-! `next_power_of_2` (sketch.rs, repaired) smears all 64 bits: for EVERY requested width `1 ≤ ctrs < 2^64` the count-min
   sketch built by `Sketch.new` has an even number of counters ≥ 2, so its rows and its mask fit together (the geometry
   half of `Sketch.WF`), without looking at the constructed value. -/

/-- one smearing step doubles the run of ones that ends at bit `i`: if bits `(i - d, i]` of `n` are set,
    bits `(i - 2d, i]` of `n | n >> d` are -/
theorem run_or_shiftRight {n : UInt64} {i : Nat} (d : Nat) (hd : d < 64)
    (h : ∀ j, j ≤ i → i < j + d → n.toNat.testBit j = true) (j : Nat) (hj : j ≤ i) (hi : i < j + 2 * d) :
    (n ||| n >>> UInt64.ofNat d).toNat.testBit j = true := by
  have hk : (UInt64.ofNat d).toNat % 64 = d := by rw [UInt64.toNat_ofNat']; omega
  rw [UInt64.toNat_or, UInt64.toNat_shiftRight, hk, Nat.testBit_or, Nat.testBit_shiftRight, Bool.or_eq_true]
  by_cases hlt : i < j + d
  · exact .inl (h j hj hlt)
  · exact .inr (h (d + j) (by omega) (by omega))

theorem succ_even (s : UInt64) (h : s.toNat.testBit 0 = true) : (s + 1).toNat % 2 = 0 := by
  rw [Nat.testBit_zero, decide_eq_true_eq] at h
  rw [UInt64.toNat_add, show (1 : UInt64).toNat = 1 from rfl]; omega

/-- the run of ones that ends at the top bit of `x - 1` has length 1 and doubles six times, so it reaches bit 0 and the
    final `+ 1` lands on an even number -/
theorem nextPow2_even (x : UInt64) (h : ¬ nextPow2 x < 2) : (nextPow2 x).toNat % 2 = 0 := by
  by_cases hn : x - 1 = 0
  · unfold nextPow2 at h; rw [hn] at h; exact absurd (by decide) h
  · have hn' : (x - 1).toNat ≠ 0 := fun hc => hn (UInt64.toNat_inj.1 hc)
    have h1 : ∀ j, j ≤ (x - 1).toNat.log2 → (x - 1).toNat.log2 < j + 1 → (x - 1).toNat.testBit j = true := by
      intro j h1 h2; obtain rfl : j = _ := Nat.le_antisymm h1 (Nat.le_of_lt_succ h2)
      exact Nat.testBit_log2 hn'
    exact succ_even _ (run_or_shiftRight 32 (by decide) (run_or_shiftRight 16 (by decide) (run_or_shiftRight 8 (by decide)
      (run_or_shiftRight 4 (by decide) (run_or_shiftRight 2 (by decide) (run_or_shiftRight 1 (by decide) h1))))) 0
      (Nat.zero_le _) ((Nat.log2_lt hn').2 (x - 1).toNat_lt))

theorem half_mask_lt (c : UInt64) (h2 : ¬ c < 2) (hev : c.toNat % 2 = 0) : (c - 1).toNat / 2 < (c / 2).toNat := by
  have e1 : (1 : UInt64).toNat = 1 := rfl
  have e2 : (2 : UInt64).toNat = 2 := rfl
  rw [UInt64.lt_iff_toNat_lt, e2] at h2
  rw [UInt64.toNat_sub_of_le _ _ (by rw [UInt64.le_iff_toNat_le, e1]; omega), UInt64.toNat_div, e1, e2]
  omega

theorem Sketch.new_geometry (ctrs : Nat) (sch : Scheme) (h1 : 1 ≤ ctrs) (h2 : ctrs < 2 ^ 64) :
    ∃ s, Sketch.new ctrs sch = some s ∧ s.rows.length = 4 ∧ s.scheme = sch ∧
      ∀ r ∈ s.rows, Row.WF r ∧ s.mask.toNat / 2 < r.length := by
  unfold Sketch.new
  rw [if_neg (Nat.not_lt.2 h1)]
  refine ⟨_, rfl, rfl, rfl, fun r hr => ?_⟩
  simp only [List.mem_cons, List.mem_nil_iff, or_false, or_self] at hr
  obtain ⟨wf, hlen, _⟩ := Row.new_spec ((if nextPow2 (UInt64.ofNat ctrs) < 2 then 2 else nextPow2 (UInt64.ofNat ctrs)) / 2).toNat
  rw [hr, hlen]
  refine ⟨wf, half_mask_lt _ ?_ ?_⟩ <;> split
  · decide
  · assumption
  · decide
  · exact nextPow2_even _ ‹_›

end M
