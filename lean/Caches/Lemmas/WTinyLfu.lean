/- `WTinyLfu`: the invariant, and the one walk over the model: every operation computes the policy `WtSpec` on the
   three lists and `WtSpec.estStep` on the estimator, and leaves the capacities alone (`step_spec`), for every key
   hasher. What the policy does to well-formed lists is in `WtFlow`. Every history is then the fold of the policy (`run_spec`).
   Last come what the cache owes to coherence (C02) and the objects it holds (C04). -/
import Caches.Lemmas.Conserve
import Caches.Lemmas.Slru
import Caches.Lemmas.TinyLfu
import Caches.Lemmas.WtFlow
namespace M
open List
variable {κ ν : Type} [DecidableEq κ]
namespace WTinyLfu

structure Inv (c : WTinyLfu κ ν) : Prop where
  wnd : (keys c.window.items).Nodup
  wb : c.window.items.length ≤ c.window.cap
  wpos : 0 < c.window.cap
  mi : c.main.Inv
  dw : ∀ x, x ∈ keys c.window.items → ¬ Slru.Held c.main x
  ei : c.est.WF

def lists (c : WTinyLfu κ ν) : WtSpec.St κ ν := ⟨c.window.items, c.main.prob.items, c.main.prot.items⟩

def set (c : WTinyLfu κ ν) (s : WtSpec.St κ ν) (e : TinyLfu) : WTinyLfu κ ν :=
  { est := e, window := { c.window with items := s.w }, main := c.main.set (s.p, s.q) }

theorem inv_iff (c : WTinyLfu κ ν) :
    c.Inv ↔ WtSpec.WF c.lists c.window.cap c.main.prob.cap c.main.prot.cap ∧ c.est.WF := by
  constructor
  · rintro ⟨wnd, wb, wpos, mi, dw, ei⟩
    have m := mi.wf
    refine ⟨⟨?_, wb, wpos, m.bp, m.bq, m.pp, m.pq⟩, ei⟩
    rw [WtSpec.all, keys_append, nodup_append_iff]
    exact ⟨wnd, m.nd, fun x hx hb => dw x hx ((Slru.held_iff ..).2 hb)⟩
  · rintro ⟨⟨nd, bw, wpos, bp, bq, pp, pq⟩, ei⟩
    rw [WtSpec.all, keys_append, nodup_append_iff] at nd
    exact ⟨nd.1, bw, wpos, (Slru.inv_iff _).2 ⟨nd.2.1, bp, bq, pp, pq⟩,
      fun x hx hh => nd.2.2 x hx ((Slru.held_iff ..).1 hh), ei⟩

theorem Inv.wf {c : WTinyLfu κ ν} (h : c.Inv) : WtSpec.WF c.lists c.window.cap c.main.prob.cap c.main.prot.cap :=
  ((inv_iff c).1 h).1

variable {c : WTinyLfu κ ν}

theorem put_spec (kh : κ → UInt64) (h : c.Inv) (k : κ) (v : ν) :
    c.put kh k v = .ok (let r := WtSpec.put c.lists c.window.cap c.main.prob.cap c.main.prot.cap (WtSpec.verdict kh c.est) k v
      (r.2, c.set r.1 c.est, r.2.keyBack k)) := by
  obtain ⟨wnd, wb, wpos, mi, dw, ei⟩ := h
  have := mi.pq; have := mi.bq
  unfold WtSpec.put WTinyLfu.put RawLru.remove
  simp only [lists]
  cases hw : find k c.window.items with
  | some old =>
    -- the key leaves the window, protected's LRU is demoted into the window if protected is full, `put_protected`
    have hlen := length_erase_of_find hw
    have hnm : ¬ Slru.Held c.main k := dw k (find_some_mem hw)
    have hkp : find k c.main.prob.items = none := (find_none_iff k _).2 fun hc => hnm (.inl hc)
    have hkq : find k c.main.prot.items = none := (find_none_iff k _).2 fun hc => hnm (.inr hc)
    simp only [WTinyLfu.makeProtectedRoom]
    by_cases hpf : c.main.prot.items.length ≥ c.main.prot.cap
    · obtain ⟨ent, hl⟩ := getLast?_some_of_pos c.main.prot.items (by omega)
      simp only [hpf, if_true, hl]
      have hentw : find ent.1 (erase k c.window.items) = none := (find_none_iff _ _).2 fun hc =>
        dw ent.1 (keys_erase_subset k _ _ hc) (.inr (List.mem_of_getLast? (keys_getLast? _ _ hl)))
      have hkq' : find k c.main.prot.items.dropLast = none :=
        (find_none_iff _ _).2 fun hc => hnm (.inr (by rw [keys_dropLast] at hc; exact List.dropLast_subset _ hc))
      simp only [Slru.removeLruFromProtected, RawLru.removeLru_some _ ent hl,
        RawLru.put_absent_room ({ c.window with items := erase k c.window.items } : RawLru κ ν) ent.1 ent.2 hentw
          (show _ < c.window.cap by simp only; omega),
        Slru.putProtected_fresh ({ c.main with prot := { c.main.prot with items := c.main.prot.items.dropLast } }) k v hkp hkq'
          (by simp only [length_dropLast]; omega)]
      rfl
    · simp only [hpf, if_false, Slru.putProtected_fresh c.main k v hkp hkq (by omega)]
      rfl
  | none =>
    have hcont : c.main.contains k = ((find k c.main.prot.items).isSome || (find k c.main.prob.items).isSome) := rfl
    by_cases hmc : c.main.contains k = true
    · simp only [← hcont, hmc, if_true, Slru.put_spec mi k v]; rfl
    · simp only [← hcont, hmc, Bool.false_eq_true, if_false]
      by_cases hroom : c.window.items.length < c.window.cap
      · simp only [hroom, if_true, RawLru.put_absent_room c.window k v hw hroom]; rfl
      · obtain ⟨cand, hl⟩ := getLast?_some_of_pos c.window.items (by omega)
        rcases hs : SlruSpec.put c.main.prob.items c.main.prot.items c.main.prob.cap c.main.prot.cap cand.1 cand.2 with ⟨p', q', r'⟩
        have hd := Slru.put_spec mi cand.1 cand.2
        simp only [hs] at hd
        -- `cand` is new to the main cache, so its `put` hands no key object back
        have hkb : r'.keyBack cand.1 = [] ∧ r'.keyBack k = [] := by
          have hcm : find cand.1 (c.main.prob.items ++ c.main.prot.items) = none := (find_none_iff _ _).2 fun hc =>
            dw cand.1 (List.mem_of_getLast? (keys_getLast? _ _ hl)) ((Slru.held_iff ..).2 hc)
          obtain ⟨ev, rfl, _⟩ := hs ▸ SlruSpec.put_flow mi.wf cand.1 cand.2
          rw [hcm]; cases ev <;> exact ⟨rfl, rfl⟩
        rw [hkb.1] at hd
        simp only [hroom, if_false, hl, hs,
          RawLru.put_absent_full c.window k v cand hw (by omega) (by omega) hl, Slru.len, Slru.cap, RawLru.peekLru]
        by_cases hmr : c.main.prot.items.length + c.main.prob.items.length < c.main.prot.cap + c.main.prob.cap
        · simp only [hmr, if_true, hd, hkb.2]; rfl
        · simp only [hmr, if_false]
          cases hv : c.main.prob.items.getLast? with
          | none => simp only [hd, hkb.2]; rfl
          | some vic =>
            obtain ⟨b, hb⟩ := TinyLfu.compare_total c.est ei .lt (kh cand.1) (kh vic.1)
            simp only [WtSpec.verdict, TinyLfu.lt, hb]
            cases b with
            | true => rfl
            | false => simp only [Bool.false_eq_true, if_false, hd, hkb.2]; rfl

omit [DecidableEq κ] in
/-- a lookup records one access after the reset check; on a well-formed estimator neither step faults -/
theorem estStep_getMut (kh : κ → UInt64) {e : TinyLfu} (h : e.WF) (k : κ) (w : Option ν) :
    e.tryReset.increment (kh k) = .ok (WtSpec.estStep kh e (.getMut k w)) ∧ (WtSpec.estStep kh e (.getMut k w)).WF := by
  obtain ⟨e', hinc, hwf, _⟩ := TinyLfu.increment_total e.tryReset (TinyLfu.tryReset_wf e h).1 (kh k)
  simpa only [WtSpec.estStep, hinc, true_and] using hwf

omit [DecidableEq κ] in
theorem estStep_wf (kh : κ → UInt64) {e : TinyLfu} (h : e.WF) (o : CacheOp κ ν) : (WtSpec.estStep kh e o).WF := by
  cases o with
  | getMut k w => exact (estStep_getMut kh h k w).2
  | purge => exact (TinyLfu.clear_spec e h).wf
  | put _ _ | peekMut _ _ | remove _ | read => exact h

theorem getMut_spec (kh : κ → UInt64) (h : c.Inv) (k : κ) (w : Option ν) :
    c.getMut kh k w = .ok (let r := WtSpec.get c.lists c.main.prot.cap k w
      (r.2, c.set r.1 (WtSpec.estStep kh c.est (.getMut k w)))) := by
  unfold WtSpec.get WTinyLfu.getMut WTinyLfu.record
  simp only [(estStep_getMut kh h.ei k w).1, RawLru.getMut, lists]
  cases hw : find k c.window.items with
  | some old => rfl
  | none => simp only [Slru.getMut_spec h.mi k w]; rfl

theorem remove_spec (c : WTinyLfu κ ν) (k : κ) :
    (c.remove k).1 = c.set (WtSpec.remove c.lists k).1 c.est ∧ (c.remove k).2.1 = (WtSpec.remove c.lists k).2 := by
  unfold WTinyLfu.remove RawLru.remove WtSpec.remove
  cases hw : find k c.window.items with
  | some old => simp only [lists, hw]; exact ⟨rfl, trivial⟩
  | none => simp only [lists, hw, (Slru.remove_spec c.main k).1, (Slru.remove_spec c.main k).2]; exact ⟨rfl, trivial⟩

theorem peekMut_spec (c : WTinyLfu κ ν) (k : κ) (w : Option ν) :
    (c.peekMut k w).1 = c.set (WtSpec.peekMut c.lists k w) c.est := by
  unfold WTinyLfu.peekMut RawLru.peekMut WtSpec.peekMut
  cases hw : find k c.window.items with
  | some old => cases w <;> simp only [lists, hw] <;> rfl
  | none => simp only [lists, hw, Slru.peekMut_spec]; rfl

theorem purge_spec (c : WTinyLfu κ ν) : ∃ d, c.purge = .ok (c.set ⟨[], [], []⟩ c.est.clear, d) := by
  obtain ⟨d, hd⟩ := Slru.purge_spec c.main
  simp only [WTinyLfu.purge, RawLru.purge_spec, hd]; exact ⟨_, rfl⟩

theorem clone_eq (c : WTinyLfu κ ν) (h : c.Inv) : c.cloneImpl = .ok c := by
  unfold WTinyLfu.cloneImpl
  rw [RawLru.clone_eq c.window ⟨h.wnd, h.wb⟩, Slru.clone_eq c.main h.mi]

theorem step_spec (kh : κ → UInt64) (h : c.Inv) (o : CacheOp κ ν) :
    WTinyLfu.step kh c o = .ok (c.set
      (WtSpec.stepE kh c.window.cap c.main.prob.cap c.main.prot.cap (c.lists, c.est) o).1
      (WtSpec.stepE kh c.window.cap c.main.prob.cap c.main.prot.cap (c.lists, c.est) o).2) := by
  cases o with
  | put k v => simp only [WTinyLfu.step, put_spec kh h k v]; rfl
  | getMut k w => simp only [WTinyLfu.step, getMut_spec kh h k w]; rfl
  | peekMut k w => simp only [WTinyLfu.step, peekMut_spec]; rfl
  | remove k => simp only [WTinyLfu.step, (remove_spec c k).1]; rfl
  | purge => obtain ⟨d, hd⟩ := purge_spec c; simp only [WTinyLfu.step, hd]; rfl
  | read => rfl

/-- the invariant at given capacities: the form in which `C01.wtinylfu_reachable` states what a history keeps -/
def InvC (w p q : Nat) (c : WTinyLfu κ ν) : Prop :=
  c.Inv ∧ c.window.cap = w ∧ c.main.prob.cap = p ∧ c.main.prot.cap = q

theorem Inv.step (kh : κ → UInt64) (h : c.Inv) (o : CacheOp κ ν) :
    (c.set (WtSpec.stepE kh c.window.cap c.main.prob.cap c.main.prot.cap (c.lists, c.est) o).1
      (WtSpec.stepE kh c.window.cap c.main.prob.cap c.main.prot.cap (c.lists, c.est) o).2).Inv :=
  (inv_iff _).2 ⟨WtSpec.step_wf h.wf _ o, estStep_wf kh h.ei o⟩

theorem step_inv (kh : κ → UInt64) (c : WTinyLfu κ ν) (o : CacheOp κ ν) (h : c.Inv) :
    ∃ c', WTinyLfu.step kh c o = .ok c' ∧ c'.Inv :=
  ⟨_, step_spec kh h o, h.step kh o⟩

theorem run_spec (kh : κ → UInt64) (h : c.Inv) (ops : List (CacheOp κ ν)) :
    runOps (WTinyLfu.step kh) c ops = .ok (c.set
      (ops.foldl (WtSpec.stepE kh c.window.cap c.main.prob.cap c.main.prot.cap) (c.lists, c.est)).1
      (ops.foldl (WtSpec.stepE kh c.window.cap c.main.prob.cap c.main.prot.cap) (c.lists, c.est)).2) ∧
    (c.set (ops.foldl (WtSpec.stepE kh c.window.cap c.main.prob.cap c.main.prot.cap) (c.lists, c.est)).1
      (ops.foldl (WtSpec.stepE kh c.window.cap c.main.prob.cap c.main.prot.cap) (c.lists, c.est)).2).Inv := by
  induction ops generalizing c with
  | nil => exact ⟨rfl, h⟩
  | cons o rest ih => simp only [runOps, step_spec kh h o, foldl_cons]; exact ih (h.step kh o)

/-! ### what each operation owes to coherence (C02): resident entries are window ++ probationary ++ protected -/
def ents (c : WTinyLfu κ ν) : AL κ ν := c.window.items ++ (c.main.prob.items ++ c.main.prot.items)

def decl (c : WTinyLfu κ ν) : CacheOp κ ν → Decl κ ν
  | .put k v => keyDecl k (some (k, v))
  | .getMut k w => RawLru.writeDecl k ((find k c.window.items).isSome ||
      ((find k c.main.prot.items).isSome || (find k c.main.prob.items).isSome)) w
  | .peekMut k w => RawLru.writeDecl k ((find k c.window.items).isSome ||
      ((find k c.main.prot.items).isSome || (find k c.main.prob.items).isSome)) w
  | .remove k => keyDecl k none
  | .purge => { wr := none, kills := fun _ => true }
  | .read => Decl.none

theorem peek_eq (h : c.Inv) (k : κ) : c.peek k = find k c.ents := by
  unfold WTinyLfu.peek RawLru.peek ents; rw [find_append, ← Slru.ents, ← Slru.peek_eq h.mi]
  cases find k c.window.items <;> rfl

theorem step_owes (kh : κ → UInt64) (c : WTinyLfu κ ν) (o : CacheOp κ ν) (h : c.Inv) :
    ∃ c', c.step kh o = .ok c' ∧ c'.Inv ∧ Owes (c.decl o) c.ents c'.ents := by
  refine ⟨_, step_spec kh h o, h.step kh o, ?_⟩
  have hw := h.wf
  have hres : ∀ k, ((find k c.window.items).isSome ||
      ((find k c.main.prot.items).isSome || (find k c.main.prob.items).isSome)) = (find k c.ents).isSome := fun k => by
    rw [ents, find_append, find_append, Option.isSome_or, Option.isSome_or, Bool.or_comm (find k c.main.prot.items).isSome]
  cases o with
  | put k v =>
    obtain ⟨ev, _, hf, _⟩ := WtSpec.put_flow hw (WtSpec.verdict kh c.est) k v
    exact hf.owes (wr := some (k, v)) hw.nd (by simp)
  | getMut k w => obtain ⟨_, hf, _⟩ := WtSpec.get_flow hw k w; simp only [decl, hres]; exact Flow.owes_write hw.nd hf
  | peekMut k w =>
    simp only [decl, hres, WtSpec.stepE, WtSpec.step, WtSpec.peekMut_eq hw.nd]
    have := owes_writeAt (A := c.lists.w) (B := c.lists.p ++ c.lists.q) hw.nd k w
    rwa [writeAt_append w hw.main.nd] at this
  | remove k =>
    simp only [WtSpec.stepE, WtSpec.step, WtSpec.remove_eq hw.nd]
    have := owes_erase (A := c.lists.w) (B := c.lists.p ++ c.lists.q) hw.nd k
    rwa [erase_append hw.main.nd] at this
  | purge => exact owes_all _
  | read => exact owes_none _ _ fun e he => he

/-! ### the objects held (C04): the window's and the main cache's; the estimator holds no object -/
section held
variable [DecidableEq ν]

def heldAll (c : WTinyLfu κ ν) : List (Obj κ ν) := held c.window.items ++ c.main.heldAll

theorem heldAll_eq (c : WTinyLfu κ ν) : c.heldAll = held (WtSpec.all c.lists) := by
  simp only [heldAll, Slru.heldAll_eq, WtSpec.all, lists, held_append]

set_option linter.unusedSectionVars false in
theorem drop_count (c : WTinyLfu κ ν) : c.dropCache = c.heldAll := rfl

end held
end WTinyLfu

end M
