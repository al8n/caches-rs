/- A cache that holds the first `cap` entries of a recency stack still does after a use (`step_prefix`, through `erase`
   against `take`), hence after every history of uses (`run_prefix`). -/
import Caches.Lemmas.RawLru
import Caches.Props.LruStack
namespace M.LruStack
variable {κ ν : Type} [DecidableEq κ]

theorem take_erase (k : κ) (D : AL κ ν) (n : Nat) :
    (erase k D).take n = if (find k (D.take (n + 1))).isSome then erase k (D.take (n + 1)) else D.take n := by
  induction D generalizing n with
  | nil => simp [erase, find]
  | cons e t ih =>
    obtain ⟨k', v⟩ := e
    by_cases hk : k' = k
    · simp [erase, find, hk]
    · cases n <;> simp [erase, find, hk, ih]
      split <;> rfl

theorem step_prefix (cap : Nat) (hc : 0 < cap) (c : RawLru κ ν) (D : AL κ ν) (hcap : c.cap = cap) (hi : c.items = D.take cap)
    (o : UseOp κ ν) : ∃ c', c.step o.toRaw = .ok c' ∧ c'.cap = cap ∧ c'.items = (step cap D o).take cap := by
  obtain ⟨n, rfl⟩ : ∃ n, cap = n + 1 := ⟨cap - 1, by omega⟩
  have ht := fun k => take_erase k D n
  have hn : c.items.take n = D.take n := by rw [hi, List.take_take]; congr 1; omega
  have hl : c.items.length ≤ n + 1 := by rw [hi, List.length_take]; omega
  rw [← hi] at ht
  cases o with
  | put k v =>
    simp only [UseOp.toRaw, RawLru.step, step, List.take_succ_cons, ht]
    rcases RawLru.put_spec c k v with ⟨old, hf, hp⟩ | ⟨hf, h0, hp⟩ | ⟨hf, _, hne, hp⟩ | ⟨lru, hf, _, hfull, _, hp⟩ <;>
      simp only [hp, hf, Option.isSome_some, Option.isSome_none, if_true, if_false, Bool.false_eq_true, ← hn]
    · exact ⟨_, rfl, hcap, rfl⟩
    · omega
    · exact ⟨_, rfl, hcap, by rw [List.take_of_length_le (by omega)]⟩
    · exact ⟨_, rfl, hcap, by rw [List.dropLast_eq_take, hfull, hcap, Nat.add_sub_cancel]⟩
  | get k w =>
    simp only [UseOp.toRaw, RawLru.step, RawLru.getMut, step, ← hi]
    cases hf : find k c.items with
    | some old => exact ⟨_, rfl, hcap, by simp only [use, List.take_succ_cons, ht, hf, Option.isSome_some, if_true]⟩
    | none => exact ⟨c, rfl, hcap, hi⟩

theorem run_prefix (cap : Nat) (hc : 0 < cap) (ops : List (UseOp κ ν)) (c : RawLru κ ν) (D : AL κ ν) (hcap : c.cap = cap)
    (hi : c.items = D.take cap) :
    ∃ c', runOps RawLru.step c (ops.map UseOp.toRaw) = .ok c' ∧ c'.items = (ops.foldl (step cap) D).take cap := by
  induction ops generalizing c D with
  | nil => exact ⟨c, rfl, hi⟩
  | cons o rest ih =>
    obtain ⟨c1, h1, hc1, hi1⟩ := step_prefix cap hc c D hcap hi o
    obtain ⟨c2, h2, hi2⟩ := ih c1 _ hc1 hi1
    exact ⟨c2, by simp only [List.map_cons, runOps, h1, h2], by simp only [List.foldl_cons, hi2]⟩

end M.LruStack
