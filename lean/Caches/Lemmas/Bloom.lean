/- The Bloom doorkeeper through its bit view `bit`. `set` and `add` are specified as replacing the words
   (`{ b with bits := bs }`), so parameters and probe positions are the same afterwards by computation; `clear` maps the
   words to 0 (`WF.bits` serves all three). -/
import Caches.Model.Bloom
namespace M

theorem and_shift_ne_zero (w n : Nat) : ((w &&& (1 <<< n)) != 0) = w.testBit n := by
  have h : w &&& 2 ^ n = if w.testBit n then 2 ^ n else 0 := by
    apply Nat.eq_of_testBit_eq; intro i
    by_cases hi : n = i <;> cases hb : w.testBit n <;> simp_all
  rw [Nat.one_shiftLeft, h]
  cases w.testBit n <;> simp

namespace Bloom

def bit (b : Bloom) (idx : Nat) : Bool :=
  match b.bits[idx >>> 6]? with
  | none => false
  | some w => w.testBit (idx % 64)

structure WF (b : Bloom) : Prop where
  shift_lt : b.shift < 64
  size_ok : b.sizeMask >>> 6 < b.bits.length
  no_overflow : b.setLocs * 2 ^ (64 - b.shift) + 2 ^ (64 - b.shift) ≤ 2 ^ 64
  locs_pos : 0 < b.setLocs

def idxOf (b : Bloom) (hash : UInt64) (i : Nat) : Nat :=
  ((b.hl hash).1 + i * (b.hl hash).2) &&& b.sizeMask

/-- `set`, `add` and `clear` only replace the words: parameters, probe positions and `WF` stay, by computation -/
theorem WF.bits {b : Bloom} (hwf : b.WF) {bs : List Nat} (h : bs.length = b.bits.length) : WF { b with bits := bs } :=
  ⟨hwf.shift_lt, h ▸ hwf.size_ok, hwf.no_overflow, hwf.locs_pos⟩

theorem hl_bounds (b : Bloom) (hwf : b.WF) (hash : UInt64) :
    (b.hl hash).1 < 2 ^ (64 - b.shift) ∧ (b.hl hash).2 < 2 ^ (64 - b.shift) := by
  have key : ∀ x : UInt64, (x >>> UInt64.ofNat b.shift).toNat < 2 ^ (64 - b.shift) := fun x => by
    have hs : (UInt64.ofNat b.shift).toNat % 64 = b.shift := by
      rw [UInt64.toNat_ofNat']; have := hwf.shift_lt; omega
    rw [UInt64.toNat_shiftRight, hs, Nat.shiftRight_eq_div_pow]
    refine Nat.div_lt_of_lt_mul ?_
    rw [← Nat.pow_add, Nat.add_sub_cancel' (Nat.le_of_lt hwf.shift_lt)]; exact x.toNat_lt
  exact ⟨key _, key _⟩

theorem index_ok (b : Bloom) (hwf : b.WF) (hash : UInt64) (i : Nat) (hi : i < b.setLocs) :
    b.index (b.hl hash).1 (b.hl hash).2 i = .ok (b.idxOf hash i) ∧ (b.idxOf hash i) >>> 6 < b.bits.length := by
  obtain ⟨hh, hl⟩ := hl_bounds b hwf hash
  have hno := hwf.no_overflow
  have h1 : i * (b.hl hash).2 < b.setLocs * 2 ^ (64 - b.shift) :=
    Nat.lt_of_le_of_lt (Nat.mul_le_mul_left _ (Nat.le_of_lt hl)) (Nat.mul_lt_mul_of_pos_right hi (Nat.two_pow_pos _))
  refine ⟨by unfold Bloom.index idxOf; rw [if_neg (by omega), if_neg (by omega)], ?_⟩
  have := hwf.size_ok
  simp only [Nat.shiftRight_eq_div_pow] at *
  exact Nat.lt_of_le_of_lt (Nat.div_le_div_right Nat.and_le_right) this

theorem set_spec (b : Bloom) (idx : Nat) (h : idx >>> 6 < b.bits.length) :
    ∃ bs, b.set idx = .ok { b with bits := bs } ∧ bs.length = b.bits.length ∧
      ∀ j, Bloom.bit { b with bits := bs } j = (b.bit j || decide (j = idx)) := by
  refine ⟨b.bits.set (idx >>> 6) (b.bits[idx >>> 6] ||| (1 <<< (idx % 64))), by simp only [Bloom.set, List.getElem?_eq_getElem h],
    List.length_set, fun j => ?_⟩
  unfold Bloom.bit
  by_cases hw : j >>> 6 = idx >>> 6
  · have : (idx % 64 = j % 64) = (j = idx) := by
      simp only [Nat.shiftRight_eq_div_pow] at hw; exact propext ⟨by omega, by omega⟩
    rw [hw]
    simp only [List.getElem?_set_self h, List.getElem?_eq_getElem h, Nat.testBit_or, Nat.one_shiftLeft, Nat.testBit_two_pow, this]
  · have hne : j ≠ idx := fun hc => hw (by rw [hc])
    simp only [List.getElem?_set_ne (Ne.symm hw), hne, decide_false, Bool.or_false]

theorem isSet_eq (b : Bloom) (idx : Nat) (h : idx >>> 6 < b.bits.length) : b.isSet idx = .ok (b.bit idx) := by
  unfold Bloom.isSet Bloom.bit
  simp only [List.getElem?_eq_getElem h, and_shift_ne_zero]

theorem addLoop_spec (hash : UInt64) (n i : Nat) (b : Bloom) (hwf : b.WF) (hn : i + n = b.setLocs) :
    ∃ bs, Bloom.addLoop (b.hl hash).1 (b.hl hash).2 n i b = .ok { b with bits := bs } ∧ bs.length = b.bits.length ∧
      ∀ j, (Bloom.bit { b with bits := bs } j = true ↔
        b.bit j = true ∨ ∃ t, i ≤ t ∧ t < b.setLocs ∧ j = b.idxOf hash t) := by
  induction n generalizing i b with
  | zero => exact ⟨b.bits, rfl, rfl, fun j => ⟨.inl, fun h => h.elim id fun ⟨t, h1, h2, _⟩ => by omega⟩⟩
  | succ n ih =>
    have hix := index_ok b hwf hash i (by omega)
    obtain ⟨bs1, hset, hl1, hbit⟩ := set_spec b (b.idxOf hash i) hix.2
    obtain ⟨bs, hloop, hl, hb⟩ := ih (i + 1) { b with bits := bs1 } (hwf.bits hl1) (show i + 1 + n = b.setLocs by omega)
    refine ⟨bs, by simp only [Bloom.addLoop, hix.1, hset]; exact hloop, hl.trans hl1, fun j => (hb j).trans ?_⟩
    rw [hbit j, Bool.or_eq_true, decide_eq_true_eq, or_assoc]
    refine or_congr_right ⟨fun h => ?_, fun ⟨t, h1, h2, h3⟩ => ?_⟩
    · rcases h with h | ⟨t, h1, h2, h3⟩
      · exact ⟨i, Nat.le_refl _, by omega, h⟩
      · exact ⟨t, by omega, h2, h3⟩
    · by_cases ht : t = i
      · exact .inl (ht ▸ h3)
      · exact .inr ⟨t, by omega, h2, h3⟩

def Probes (b : Bloom) (hash : UInt64) (j : Nat) : Prop := ∃ t, t < b.setLocs ∧ j = b.idxOf hash t

theorem add_spec (b : Bloom) (hwf : b.WF) (hash : UInt64) :
    ∃ bs, b.add hash = .ok { b with bits := bs } ∧ bs.length = b.bits.length ∧
      ∀ j, (Bloom.bit { b with bits := bs } j = true ↔ b.bit j = true ∨ Probes b hash j) := by
  obtain ⟨bs, h, hl, hb⟩ := addLoop_spec hash b.setLocs 0 b hwf (Nat.zero_add _)
  exact ⟨bs, h, hl, fun j => (hb j).trans (or_congr_right
    ⟨fun ⟨t, _, h2, h3⟩ => ⟨t, h2, h3⟩, fun ⟨t, h2, h3⟩ => ⟨t, Nat.zero_le _, h2, h3⟩⟩)⟩

theorem containsLoop_spec (b : Bloom) (hwf : b.WF) (hash : UInt64) (n i : Nat) (hn : i + n = b.setLocs) :
    ∃ r, b.containsLoop (b.hl hash).1 (b.hl hash).2 n i = .ok r ∧
      (r = true ↔ ∀ t, i ≤ t → t < b.setLocs → b.bit (b.idxOf hash t) = true) := by
  induction n generalizing i with
  | zero => exact ⟨true, rfl, by simp; intro t h1 h2; omega⟩
  | succ n ih =>
    have hix := index_ok b hwf hash i (by omega)
    unfold Bloom.containsLoop
    simp only [hix.1, isSet_eq b _ hix.2]
    cases hb : b.bit (b.idxOf hash i) with
    | false => exact ⟨false, rfl, ⟨nofun, fun hall => hb ▸ hall i (Nat.le_refl _) (by omega)⟩⟩
    | true =>
      obtain ⟨r, hr, hiff⟩ := ih (i + 1) (by omega)
      refine ⟨r, hr, hiff.trans ⟨fun hall t h1 h2 => ?_, fun hall t h1 h2 => hall t (by omega) h2⟩⟩
      by_cases ht : t = i
      · exact ht ▸ hb
      · exact hall t (by omega) h2

theorem contains_spec (b : Bloom) (hwf : b.WF) (hash : UInt64) :
    ∃ r, b.contains hash = .ok r ∧ (r = true ↔ ∀ j, Probes b hash j → b.bit j = true) := by
  obtain ⟨r, hr, hiff⟩ := containsLoop_spec b hwf hash b.setLocs 0 (Nat.zero_add _)
  exact ⟨r, hr, hiff.trans ⟨fun hall j ⟨t, h1, h2⟩ => h2 ▸ hall t (Nat.zero_le _) h1, fun hall t _ h2 => hall _ ⟨t, h2, rfl⟩⟩⟩

theorem clear_spec (b : Bloom) (hwf : b.WF) : b.clear.WF ∧ ∀ j, b.clear.bit j = false := by
  refine ⟨hwf.bits (List.length_map _), fun j => ?_⟩
  unfold Bloom.bit Bloom.clear
  simp only [List.getElem?_map]
  cases b.bits[j >>> 6]? <;> simp

end Bloom
end M
