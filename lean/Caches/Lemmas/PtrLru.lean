/- Refinement: the pointer-level RawLRU (`Model/PtrLru`) computes exactly what the list-level RawLRU (`Model/RawLru`)
   computes, for every index function, every address the allocator may return and every reachable chain. -/
import Caches.Model.PtrLru
import Caches.Lemmas.Chain
import Caches.Lemmas.RawLru
set_option linter.unusedSectionVars false
namespace M
open M.Chain
variable {κ ν : Type} [DecidableEq κ]

/-- representation invariant: `l` is the chain between the sentinels (most recent first) -/
structure Rep (p : PLru κ ν) (l : List Nat) : Prop where
  wf : WF p.heap p.head p.tail l
  len : p.len = l.length
  idx : ∀ k n, p.idx k = some n ↔ n ∈ l ∧ (p.ent n).1 = k
  bound : l.length ≤ p.cap

def PLru.abs (p : PLru κ ν) (l : List Nat) : RawLru κ ν := { cap := p.cap, items := l.map p.ent, hasCb := false }

/-- what `Rep.idx` says, as a predicate of its own, so that the ways an operation changes the index have lemmas -/
def Idx (idx : κ → Option Nat) (ent : Nat → κ × ν) (l : List Nat) : Prop :=
  ∀ k n, idx k = some n ↔ n ∈ l ∧ (ent n).1 = k

namespace Idx
variable {idx : κ → Option Nat} {ent : Nat → κ × ν} {l : List Nat}

theorem key_inj (hi : Idx idx ent l) {a b : Nat} (ha : a ∈ l) (hb : b ∈ l) (e : (ent a).1 = (ent b).1) : a = b :=
  Option.some.inj (((hi _ a).2 ⟨ha, e⟩).symm.trans ((hi _ b).2 ⟨hb, rfl⟩))

theorem of_mem (hi : Idx idx ent l) {l' : List Nat} (hm : ∀ n, n ∈ l' ↔ n ∈ l) : Idx idx ent l' :=
  fun k n => by rw [hi k n, hm n]

theorem setVal (hi : Idx idx ent l) (n : Nat) (v : ν) : Idx idx (upd ent n ((ent n).1, v)) l := by
  intro k m; rw [hi k m]; unfold upd; split <;> simp_all

theorem erase (hi : Idx idx ent l) (hnd : l.Nodup) {n : Nat} (hn : n ∈ l) :
    Idx (upd idx (ent n).1 none) ent (l.erase n) := by
  intro k m
  simp only [upd, hnd.mem_erase_iff]
  by_cases hk : k = (ent n).1
  · subst hk; simp only [if_true]
    exact ⟨nofun, fun ⟨⟨hne, hm⟩, he⟩ => absurd (hi.key_inj hm hn he) hne⟩
  · simp only [hk, if_false]; rw [hi k m]
    exact ⟨fun ⟨hm, he⟩ => ⟨⟨fun hc => hk (hc ▸ he.symm), hm⟩, he⟩, fun ⟨⟨_, hm⟩, he⟩ => ⟨hm, he⟩⟩

theorem insert (hi : Idx idx ent l) {a : Nat} (ha : a ∉ l) {k : κ} (hk : idx k = none) (v : ν) :
    Idx (upd idx k (some a)) (upd ent a (k, v)) (a :: l) := by
  intro k' m
  have hkl : ∀ m ∈ l, (ent m).1 ≠ k := fun m hm he => by rw [(hi k m).2 ⟨hm, he⟩] at hk; cases hk
  simp only [upd, List.mem_cons]
  by_cases hm : m = a
  · subst hm; simp only [if_true, true_or, true_and]
    by_cases hk' : k' = k
    · simp [hk']
    · simp only [hk', if_false]; exact ⟨fun h => absurd ((hi k' m).1 h).1 ha, fun h => absurd h.symm hk'⟩
  · simp only [hm, if_false, false_or]
    by_cases hk' : k' = k
    · subst hk'; simp only [if_true]
      exact ⟨fun h => absurd (Option.some.inj h).symm hm, fun ⟨h1, h2⟩ => absurd h2 (hkl m h1)⟩
    · simp only [hk', if_false]; exact hi k' m
end Idx

theorem rep_keys_nodup (p : PLru κ ν) (l : List Nat) (h : Rep p l) : (keys (l.map p.ent)).Nodup := by
  unfold keys; rw [List.map_map]
  exact List.pairwise_map.2 (h.wf.nodup.imp_of_mem fun ha hb hne e => hne (Idx.key_inj h.idx ha hb e))

theorem rep_find (p : PLru κ ν) (l : List Nat) (h : Rep p l) (k : κ) :
    find k (p.abs l).items = (p.idx k).map (fun n => (p.ent n).2) := by
  cases hi : p.idx k with
  | none =>
    refine (find_none_iff k _).2 fun hc => ?_
    obtain ⟨e, he, rfl⟩ := List.mem_map.1 hc
    obtain ⟨n, hn, rfl⟩ := List.mem_map.1 he
    exact nomatch hi.symm.trans ((h.idx _ n).2 ⟨hn, rfl⟩)
  | some n =>
    obtain ⟨hn, rfl⟩ := (h.idx k n).1 hi
    exact (find_iff_mem _ _ _ (rep_keys_nodup p l h)).2 (List.mem_map.2 ⟨n, hn, rfl⟩)

theorem map_upd_of_not_mem {β : Type} (f : Nat → β) (n : Nat) (x : β) (l : List Nat) (h : n ∉ l) :
    l.map (upd f n x) = l.map f :=
  List.map_congr_left fun y hy => if_neg fun hc : y = n => h (hc ▸ hy)

theorem map_erase_key (ent : Nat → κ × ν) (l : List Nat) (hk : (keys (l.map ent)).Nodup) (n : Nat) (hn : n ∈ l) :
    (l.erase n).map ent = erase (ent n).1 (l.map ent) := by
  obtain ⟨s, t, rfl⟩ := List.append_of_mem hn
  rw [List.map_append, List.map_cons] at hk ⊢
  have hf := find_left_none hk (find_cons_self (ent n).1 (ent n).2 _)
  have hns : n ∉ s := fun hc => (find_none_iff _ _).1 hf (mem_keys_of_mem (List.mem_map_of_mem hc))
  rw [erase_append_right hf, List.erase_append_right _ hns, List.erase_cons_head, List.map_append]
  exact congrArg _ (erase_cons_self (ent n).1 (ent n).2 _).symm

theorem erase_snoc (ys : List Nat) (n : Nat) (hnd : (ys ++ [n]).Nodup) : (ys ++ [n]).erase n = ys := by
  have hn : n ∉ ys := fun hc => (List.nodup_append.1 hnd).2.2 n hc n List.mem_cons_self rfl
  rw [List.erase_append_right _ hn, List.erase_cons_head, List.append_nil]

theorem peek_refines (p : PLru κ ν) (l : List Nat) (h : Rep p l) (k : κ) : p.peek k = (p.abs l).peek k :=
  (rep_find p l h k).symm

theorem rep_front (p : PLru κ ν) (l : List Nat) (h : Rep p l) (n : Nat) (hn : n ∈ l) :
    Rep { p with heap := attach (detach p.heap n) p.head n } (n :: l.erase n) :=
  have hp := List.perm_cons_erase hn
  ⟨move_front_wf _ _ _ _ h.wf n hn, h.len.trans hp.length_eq, Idx.of_mem h.idx fun _ => hp.mem_iff.symm,
    hp.length_eq ▸ h.bound⟩

/-- what `remove` and `remove_lru` both do to a chained node -/
theorem rep_unlink (p : PLru κ ν) (l : List Nat) (h : Rep p l) (n : Nat) (hn : n ∈ l) :
    Rep { p with idx := upd p.idx (p.ent n).1 none, heap := detach p.heap n, len := p.len - 1 } (l.erase n) :=
  ⟨detach_wf _ _ _ _ h.wf n hn, by rw [List.length_erase_of_mem hn, ← h.len],
    Idx.erase h.idx h.wf.nodup hn, Nat.le_trans List.length_erase_le h.bound⟩

theorem get_refines (p : PLru κ ν) (l : List Nat) (h : Rep p l) (k : κ) :
    ∃ l', Rep (p.get k).1 l' ∧ (p.get k).1.abs l' = ((p.abs l).get k).1 ∧ (p.get k).2 = ((p.abs l).get k).2 := by
  unfold PLru.get RawLru.get
  rw [rep_find p l h k]
  cases hi : p.idx k with
  | none => exact ⟨l, h, rfl, rfl⟩
  | some n =>
    obtain ⟨hn, rfl⟩ := (h.idx k n).1 hi
    exact ⟨n :: l.erase n, rep_front p l h n hn,
      by simp only [PLru.abs, Option.map_some, List.map_cons, use, map_erase_key p.ent l (rep_keys_nodup p l h) n hn], rfl⟩

theorem remove_refines (p : PLru κ ν) (l : List Nat) (h : Rep p l) (k : κ) :
    ∃ l', Rep (p.remove k).1 l' ∧ (p.remove k).1.abs l' = ((p.abs l).remove k).1 ∧
      (p.remove k).2 = ((p.abs l).remove k).2.1 := by
  unfold PLru.remove RawLru.remove
  rw [rep_find p l h k]
  cases hi : p.idx k with
  | none => exact ⟨l, h, rfl, rfl⟩
  | some n =>
    obtain ⟨hn, rfl⟩ := (h.idx k n).1 hi
    exact ⟨l.erase n, rep_unlink p l h n hn,
      by simp only [PLru.abs, Option.map_some, map_erase_key p.ent l (rep_keys_nodup p l h) n hn], rfl⟩

theorem removeLru_refines (p : PLru κ ν) (l : List Nat) (h : Rep p l) :
    ∃ l', Rep p.removeLru.1 l' ∧ p.removeLru.1.abs l' = (p.abs l).removeLru.1 ∧
      p.removeLru.2 = (p.abs l).removeLru.2.1 := by
  unfold PLru.removeLru RawLru.removeLru RawLru.removeLruIn
  by_cases h0 : p.len = 0
  · obtain rfl : l = [] := List.eq_nil_of_length_eq_zero (h.len ▸ h0)
    simp only [h0, if_true, PLru.abs, List.map_nil, List.getLast?_nil]
    exact ⟨[], h, rfl, trivial⟩
  · obtain ⟨ys, n, rfl⟩ := exists_snoc (l := l) (by rintro rfl; exact h0 h.len)
    simp only [h0, if_false, PLru.abs, tail_prev _ _ _ _ _ h.wf, List.map_append, List.map_cons, List.map_nil,
      List.getLast?_concat, List.dropLast_concat]
    exact ⟨ys, erase_snoc ys n h.wf.nodup ▸ rep_unlink p _ h n (by simp), rfl, trivial⟩

/-- `a` is any address the allocator may hand out (any address not in the chain); neither the result nor the list the
    chain represents afterwards depends on it -/
theorem put_refines (p : PLru κ ν) (l : List Nat) (h : Rep p l) (k : κ) (v : ν) (a : Nat)
    (ha : a ∉ p.head :: (l ++ [p.tail])) :
    ∃ l' c' e, Rep (p.put k v a).1 l' ∧ (p.abs l).put k v = .ok (c', (p.put k v a).2, e) ∧ (p.put k v a).1.abs l' = c' := by
  have hf := rep_find p l h k
  have hnd := h.wf.nodup
  unfold PLru.put
  cases hi : p.idx k with
  | some n =>
    rw [hi] at hf
    obtain ⟨hn, rfl⟩ := (h.idx k n).1 hi
    have hr := rep_front p l h n hn
    refine ⟨n :: l.erase n, _, _, ⟨hr.wf, hr.len, Idx.setVal hr.idx n v, hr.bound⟩,
      RawLru.put_present (p.abs l) _ v (p.ent n).2 hf, ?_⟩
    simp only [PLru.abs, List.map_cons, use, upd, if_true]
    rw [map_upd_of_not_mem p.ent n _ _ hnd.not_mem_erase, map_erase_key p.ent l (rep_keys_nodup p l h) n hn]
  | none =>
    rw [hi] at hf
    by_cases h0 : p.cap = 0
    · simp only [h0, if_true]
      exact ⟨l, _, _, h, RawLru.put_cap_zero (p.abs l) k v hf h0, rfl⟩
    · simp only [h0, if_false]
      by_cases hfull : p.len = p.cap
      · -- the node before the tail sentinel is recycled: un-indexed, overwritten, indexed under `k`, moved to the front
        obtain ⟨ys, n, rfl⟩ := exists_snoc (l := l) (by rintro rfl; exact h0 (hfull ▸ h.len))
        have hn : n ∈ ys ++ [n] := by simp
        have he := erase_snoc ys n hnd
        have hny : n ∉ ys := he ▸ hnd.not_mem_erase
        have hr := rep_front p _ h n hn
        rw [he] at hr
        simp only [hfull, if_true, tail_prev _ _ _ _ _ h.wf]
        refine ⟨n :: ys, _, _, ⟨hr.wf, hfull ▸ hr.len, ?_, hr.bound⟩,
          RawLru.put_absent_full (p.abs _) k v (p.ent n) hf (List.length_map _ |>.trans (h.len.symm.trans hfull)) h0
            (by simp [PLru.abs]), ?_⟩
        · exact he ▸ (Idx.erase h.idx hnd hn).insert hnd.not_mem_erase (by simp only [upd]; split <;> simp [hi]) v
        · simp only [PLru.abs, List.map_cons, upd, if_true, map_upd_of_not_mem p.ent n (k, v) ys hny, List.map_append,
            List.map_nil, List.dropLast_concat]
      · have hal : a ∉ l := fun hc => ha (by simp [hc])
        have hlt : l.length < p.cap := by have := h.len; have := h.bound; omega
        simp only [hfull, if_false]
        refine ⟨a :: l, _, _, ⟨attach_wf _ _ _ _ _ h.wf ha, by simp [h.len], Idx.insert h.idx hal hi v, hlt⟩,
          RawLru.put_absent_room (p.abs l) k v hf (by simpa [PLru.abs] using hlt), ?_⟩
        simp only [PLru.abs, List.map_cons, upd, if_true, map_upd_of_not_mem p.ent a (k, v) l hal]

end M
