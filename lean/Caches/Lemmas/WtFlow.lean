/- What the W-TinyLFU policy `WtSpec` does to well-formed lists: the flow of entries through each operation over
   window ++ (probationary ++ protected), whatever the admission verdict `lt` says. The main cache is the segmented
   LRU policy, so its flows (`SlruFlow`) are used as they are, with the window in front. -/
import Caches.Lemmas.SlruFlow
import Caches.Props.WtMachine
set_option linter.unusedSectionVars false
namespace M.WtSpec
open List
variable {κ ν : Type} [DecidableEq κ]

def all (s : St κ ν) : AL κ ν := s.w ++ (s.p ++ s.q)

structure WF (s : St κ ν) (wcap pcap qcap : Nat) : Prop where
  nd : (keys (all s)).Nodup
  bw : s.w.length ≤ wcap
  wpos : 0 < wcap
  bp : s.p.length ≤ pcap
  bq : s.q.length ≤ qcap
  pp : 0 < pcap
  pq : 0 < qcap

variable {s s' : St κ ν} {wcap pcap qcap : Nat} {k : κ}

theorem WF.main (h : WF s wcap pcap qcap) : SlruSpec.WF s.p s.q pcap qcap :=
  ⟨nodup_keys_right h.nd, h.bp, h.bq, h.pp, h.pq⟩

theorem WF.of_flow {ins outs : AL κ ν} (h : WF s wcap pcap qcap) (hf : Flow k ins (all s) (all s') outs)
    (hk : ins = [] ∨ ∃ v, ins = [(k, v)]) (bw : s'.w.length ≤ wcap) (bp : s'.p.length ≤ pcap) (bq : s'.q.length ≤ qcap) :
    WF s' wcap pcap qcap :=
  ⟨hf.nodup_left h.nd hk, bw, h.wpos, bp, bq, h.pp, h.pq⟩

theorem put_flow (h : WF s wcap pcap qcap) (lt : κ → κ → Bool) (k : κ) (v : ν) :
    let r := put s wcap pcap qcap lt k v
    ∃ ev, r.2 = .of (find k (all s)) ev ∧ Flow k [(k, v)] (all s) (all r.1) ev.toList ∧
      (k, v) ∈ all r.1 ∧ r.1.w.length ≤ wcap ∧ r.1.p.length ≤ pcap ∧ r.1.q.length ≤ qcap := by
  letI := Classical.typeDecidableEq ν
  have ⟨nd, bw, wpos, bp, bq, pp, pq⟩ := h
  unfold put
  cases hw : find k s.w with
  | some old =>
    -- a window-resident key moves to protected; protected's LRU, if pushed out, takes its place in the window
    have hlen := length_erase_of_find hw
    have hfind : (PutResult.update old : PutResult κ ν) = .of (find k (all s)) none := by
      simp [all, find_append, hw, PutResult.of]
    simp only [all, Flow, erase_append_left hw]
    split
    · obtain ⟨dem, hl⟩ := getLast?_some_of_pos s.q (by omega)
      simp only [hl]
      refine ⟨none, hfind, perm_iff_count.2 fun x => ?_, by simp, by simp only [length_cons]; omega, bp,
        by simp only [length_cons, length_dropLast]; omega⟩
      simp only [Option.toList, count_dropLast hl, count_append, count_cons, count_nil]; omega
    · refine ⟨none, hfind, perm_iff_count.2 fun x => ?_, by simp, by simp only; omega, bp, by simp only [length_cons]; omega⟩
      simp only [Option.toList, count_append, count_cons, count_nil]; omega
  | none =>
    by_cases hmain : ((find k s.q).isSome || (find k s.p).isSome) = true
    · -- the key is in the main cache: its `put`, behind the window
      obtain ⟨ev, hr, hf, hin, b1, b2⟩ := SlruSpec.put_flow h.main k v
      simp only [hmain, if_true]
      exact ⟨ev, by simpa [all, find_append, hw] using hr, hf.append_left hw, mem_append_right _ hin, bw, b1, b2⟩
    · simp only [hmain, Bool.false_eq_true, if_false]
      have hm : find k (s.p ++ s.q) = none := by
        rwa [← Option.not_isSome_iff_eq_none, find_append, Option.isSome_or, Bool.or_comm]
      have hfind : find k (all s) = none := by simp [all, find_append, hw, hm]
      simp only [hfind, Flow, erase_of_find_none hfind]
      by_cases hroom : s.w.length < wcap
      · simp only [hroom, if_true]
        exact ⟨none, rfl, by simp [all], by simp [all], by simp only [length_cons]; omega, bp, bq⟩
      · -- the window's LRU `cand` makes room; it is put into the main cache or, on the verdict, handed back
        simp only [hroom, if_false]
        obtain ⟨cand, hl⟩ := getLast?_some_of_pos s.w (by omega)
        have hcm : find cand.1 (s.p ++ s.q) = none :=
          find_right_none nd (find_last hl (nodup_keys_left nd))
        rcases hs : SlruSpec.put s.p s.q pcap qcap cand.1 cand.2 with ⟨p1, q1, r'⟩
        obtain ⟨ev, hr, hf, _, b1, b2⟩ := hs ▸ SlruSpec.put_flow h.main cand.1 cand.2
        rw [hcm] at hr
        simp only [Flow, erase_of_find_none hcm, Prod.eta] at hf
        have hbw : ((k, v) :: s.w.dropLast).length ≤ wcap := by simp only [length_cons, length_dropLast]; omega
        have admitted : ∃ ev, r' = .of none ev ∧
            [(k, v)] ++ all s ~ (k, v) :: s.w.dropLast ++ (p1 ++ q1) ++ ev.toList ∧
            (k, v) ∈ (k, v) :: s.w.dropLast ++ (p1 ++ q1) ∧
            ((k, v) :: s.w.dropLast).length ≤ wcap ∧ p1.length ≤ pcap ∧ q1.length ≤ qcap := by
          refine ⟨ev, hr, perm_iff_count.2 fun x => ?_, by simp, hbw, b1, b2⟩
          have := hf.count_eq x
          simp only [all, count_dropLast hl, count_append, count_cons, count_nil] at this ⊢; omega
        have rejected : ∃ ev, (PutResult.evicted cand.1 cand.2 : PutResult κ ν) = .of none ev ∧
            [(k, v)] ++ all s ~ (k, v) :: s.w.dropLast ++ (s.p ++ s.q) ++ ev.toList ∧
            (k, v) ∈ (k, v) :: s.w.dropLast ++ (s.p ++ s.q) ∧
            ((k, v) :: s.w.dropLast).length ≤ wcap ∧ s.p.length ≤ pcap ∧ s.q.length ≤ qcap := by
          refine ⟨some cand, rfl, perm_iff_count.2 fun x => ?_, by simp, hbw, bp, bq⟩
          simp only [all, Option.toList, count_dropLast hl, count_append, count_cons, count_nil]; omega
        simp only [hl, hs]
        repeat' split
        all_goals first | exact admitted | exact rejected

theorem get_flow (h : WF s wcap pcap qcap) (k : κ) (w : Option ν) :
    let r := get s qcap k w
    r.2 = find k (all s) ∧ Flow k ((find k (all s)).map fun old => (k, w.getD old)).toList (all s) (all r.1) [] ∧
      r.1.w.length ≤ wcap ∧ r.1.p.length ≤ pcap ∧ r.1.q.length ≤ qcap := by
  have ⟨nd, bw, wpos, bp, bq, pp, pq⟩ := h
  unfold get
  rw [all, find_append]
  cases hw : find k s.w with
  | some old =>
    have := length_erase_of_find hw
    refine ⟨rfl, ?_, by simp only [length_cons]; omega, bp, bq⟩
    simp [all, Flow, erase_append_left hw]
  | none =>
    obtain ⟨hr, hf, b1, b2⟩ := SlruSpec.get_flow h.main k w
    exact ⟨hr, hf.append_left hw, bw, b1, b2⟩

theorem remove_eq (nd : (keys (all s)).Nodup) (k : κ) :
    remove s k = (⟨erase k s.w, erase k s.p, erase k s.q⟩, find k (all s)) := by
  unfold remove
  rw [all, find_append]
  cases hw : find k s.w with
  | some old =>
    obtain ⟨hp, hq⟩ := find_append_none (find_right_none nd hw)
    simp only [erase_of_find_none hp, erase_of_find_none hq, Option.some_or]
  | none => simp only [SlruSpec.remove_eq (nodup_keys_right nd), erase_of_find_none hw, Option.none_or]

theorem peekMut_eq (nd : (keys (all s)).Nodup) (k : κ) (w : Option ν) :
    peekMut s k w = ⟨writeAt k w s.w, writeAt k w s.p, writeAt k w s.q⟩ := by
  unfold peekMut
  cases hw : find k s.w with
  | some old =>
    obtain ⟨hp, hq⟩ := find_append_none (find_right_none nd hw)
    cases w <;> simp only [writeAt, setVal_of_find_none _ hp, setVal_of_find_none _ hq]
  | none =>
    simp only [SlruSpec.peekMut_eq (nodup_keys_right nd)]
    cases w <;> simp only [writeAt, setVal_of_find_none _ hw]

theorem WF.sub (h : WF s wcap pcap qcap) (hw : s'.w.Sublist s.w) (hp : s'.p.Sublist s.p) (hq : s'.q.Sublist s.q) :
    WF s' wcap pcap qcap :=
  ⟨((hw.append (hp.append hq)).map _).nodup h.nd, Nat.le_trans hw.length_le h.bw, h.wpos, Nat.le_trans hp.length_le h.bp,
    Nat.le_trans hq.length_le h.bq, h.pp, h.pq⟩

theorem WF.writeAt (h : WF s wcap pcap qcap) (k : κ) (w : Option ν) :
    WF ⟨writeAt k w s.w, writeAt k w s.p, writeAt k w s.q⟩ wcap pcap qcap :=
  ⟨by simpa only [all, keys_append, keys_writeAt] using h.nd, by simpa only [length_writeAt] using h.bw, h.wpos,
    by simpa only [length_writeAt] using h.bp, by simpa only [length_writeAt] using h.bq, h.pp, h.pq⟩

theorem step_wf (h : WF s wcap pcap qcap) (lt : κ → κ → Bool) (o : CacheOp κ ν) :
    WF (step wcap pcap qcap lt s o) wcap pcap qcap := by
  cases o with
  | put k v =>
    obtain ⟨ev, _, hf, _, b0, b1, b2⟩ := put_flow h lt k v
    exact h.of_flow hf (.inr ⟨_, rfl⟩) b0 b1 b2
  | getMut k w =>
    obtain ⟨_, hf, b0, b1, b2⟩ := get_flow h k w
    exact h.of_flow hf (by cases find k (all s) <;> simp) b0 b1 b2
  | peekMut k w =>
    rw [step, peekMut_eq h.nd]; exact h.writeAt k w
  | remove k => rw [step, remove_eq h.nd]; exact h.sub (erase_sublist ..) (erase_sublist ..) (erase_sublist ..)
  | purge => exact h.sub (nil_sublist _) (nil_sublist _) (nil_sublist _)
  | read => exact h

end M.WtSpec
