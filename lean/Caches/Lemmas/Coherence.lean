/- The coherence framework (C02): a ghost "truth" map `κ → Option ν` is updated from what each operation
   *declares* (the entry it writes, the keys whose old value it invalidates); `Coh` says every entry the cache
   holds carries the true value. One generic step lemma and one generic induction over histories; each cache
   only has to supply, per operation, where its entries can come from. Also here: `runOps_inv`, the plain induction over
   histories for an invariant that every step keeps. -/
import Caches.Model.Api
import Caches.Lemmas.Flow
set_option linter.unusedSectionVars false
namespace M
variable {κ ν : Type} [DecidableEq κ]

/-- what one operation declares: the entry it stores (if any) and the keys whose previous value it invalidates
    (the written key, a removed key, every key for `purge`) -/
structure Decl (κ ν : Type) where
  wr : Option (κ × ν)
  kills : κ → Bool

def Decl.none : Decl κ ν := { wr := Option.none, kills := fun _ => false }

def Decl.upd (d : Decl κ ν) (t : κ → Option ν) : κ → Option ν := fun x =>
  match d.wr with
  | some (k, v) => if x = k then some v else if d.kills x then Option.none else t x
  | Option.none => if d.kills x then Option.none else t x

def Coh (ents : AL κ ν) (t : κ → Option ν) : Prop := ∀ k v, (k, v) ∈ ents → t k = some v

theorem coh_nil (t : κ → Option ν) : Coh ([] : AL κ ν) t := fun _ _ h => nomatch h

/-- what one step owes its declaration for `Coh` to survive it (`coh_step`). A declaration may kill more than it must:
    an operation that only makes entries leave pays with `Decl.none` (`owes_none`) as well as with the key it removes. -/
structure Owes (d : Decl κ ν) (ents ents' : AL κ ν) : Prop where
  wk : ∀ k v, d.wr = some (k, v) → d.kills k = true
  from_ : ∀ e ∈ ents', e ∈ ents ∨ d.wr = some e
  fresh : ∀ e ∈ ents', d.kills e.1 = true → d.wr = some e

theorem coh_step (ents ents' : AL κ ν) (t : κ → Option ν) (d : Decl κ ν) (ho : Owes d ents ents')
    (hc : Coh ents t) : Coh ents' (d.upd t) := by
  intro k v hm
  unfold Decl.upd
  by_cases hk : d.kills k = true
  · have := ho.fresh (k, v) hm hk
    simp [this]
  · rcases ho.from_ (k, v) hm with h1 | h1
    · have ht := hc k v h1
      cases hw : d.wr with
      | none => simp [hk, ht]
      | some e =>
        obtain ⟨k', v'⟩ := e
        have hne : k ≠ k' := by
          intro hc'; subst hc'; exact hk (ho.wk k v' hw)
        simp [hne, hk, ht]
    · simp [h1]

theorem owes_none (ents ents' : AL κ ν) (h : ∀ e ∈ ents', e ∈ ents) : Owes (Decl.none : Decl κ ν) ents ents' :=
  ⟨by intro k v hc; simp [Decl.none] at hc, fun e he => Or.inl (h e he), by intro e _ hc; simp [Decl.none] at hc⟩

/-- `purge` kills every key and leaves nothing -/
theorem owes_all (A : AL κ ν) : Owes ({ wr := none, kills := fun _ => true } : Decl κ ν) A [] :=
  ⟨by intro k v hw; simp at hw, by intro e he; simp at he, by intro e he; simp at he⟩

def keyDecl (k : κ) (wr : Option (κ × ν)) : Decl κ ν := { wr := wr, kills := fun x => decide (x = k) }

def RawLru.writeDecl (k : κ) (resident : Bool) (w : Option ν) : Decl κ ν :=
  match w with
  | some w => { wr := if resident then some (k, w) else none, kills := fun x => decide (x = k) }
  | none => Decl.none

theorem Flow.owes {k : κ} {wr : Option (κ × ν)} {A A' outs : AL κ ν} (h : Flow k wr.toList A A' outs)
    (nd : (keys A).Nodup) (hk : ∀ e ∈ wr, e.1 = k) : Owes (keyDecl k wr) A A' := by
  have hm : ∀ e ∈ A', wr = some e ∨ (e ∈ A ∧ e.1 ≠ k) := fun e he => by simpa [eq_comm] using h.mem nd he
  refine ⟨fun k' v hw => by simpa [keyDecl] using hk _ hw, fun e he => ?_, fun e he hkill => ?_⟩
  · exact (hm e he).symm.imp_left And.left
  · exact (hm e he).resolve_right fun hc => hc.2 (by simpa [keyDecl] using hkill)

theorem Flow.owes_write {k : κ} {w : Option ν} {A A' : AL κ ν} (nd : (keys A).Nodup)
    (h : Flow k ((find k A).map fun old => (k, w.getD old)).toList A A' []) :
    Owes (RawLru.writeDecl k (find k A).isSome w) A A' := by
  cases w with
  | some w =>
    have := h.owes nd (by cases find k A <;> simp)
    cases hf : find k A <;> simpa [RawLru.writeDecl, keyDecl, hf] using this
  | none =>
    refine owes_none _ _ fun e he => ?_
    rcases h.mem nd he with h1 | h1
    · cases hf : find k A with
      | none => simp [hf] at h1
      | some old => simp [hf] at h1; exact h1 ▸ find_mem hf
    · exact h1.1

theorem owes_writeAt {A B : AL κ ν} (nd : (keys (A ++ B)).Nodup) (k : κ) (w : Option ν) :
    Owes (RawLru.writeDecl k (find k (A ++ B)).isSome w) (A ++ B) (writeAt k w A ++ writeAt k w B) :=
  Flow.owes_write nd (writeAt_append w nd ▸ Flow.of_writeAt k w (A ++ B))

theorem owes_erase {A B : AL κ ν} (nd : (keys (A ++ B)).Nodup) (k : κ) :
    Owes (keyDecl k none) (A ++ B) (erase k A ++ erase k B) :=
  (erase_append nd ▸ Flow.of_erase k (A ++ B)).owes (wr := none) nd (by simp)

theorem runOps_inv {σ ω : Type} (step : σ → ω → Res σ) (I : σ → Prop)
    (hstep : ∀ s o, I s → ∃ s', step s o = .ok s' ∧ I s') (ops : List ω) (s : σ) (h : I s) :
    ∃ s', runOps step s ops = .ok s' ∧ I s' := by
  induction ops generalizing s with
  | nil => exact ⟨s, rfl, h⟩
  | cons o rest ih =>
    obtain ⟨s1, h1, hi1⟩ := hstep s o h
    obtain ⟨s2, h2, hi2⟩ := ih s1 hi1
    exact ⟨s2, by simp only [runOps, h1, h2], hi2⟩

def runTruth {σ ω : Type} (step : σ → ω → Res σ) (decl : σ → ω → Decl κ ν) :
    σ → (κ → Option ν) → List ω → Res (σ × (κ → Option ν))
  | s, t, [] => .ok (s, t)
  | s, t, o :: rest =>
    match step s o with
    | .error f => .error f
    | .ok s' => runTruth step decl s' ((decl s o).upd t) rest

theorem coherent_history {σ ω : Type} (step : σ → ω → Res σ) (decl : σ → ω → Decl κ ν) (I : σ → Prop)
    (ents : σ → AL κ ν)
    (hstep : ∀ s o, I s → ∃ s', step s o = .ok s' ∧ I s' ∧ Owes (decl s o) (ents s) (ents s'))
    (ops : List ω) (s : σ) (t : κ → Option ν) (hi : I s) (hc : Coh (ents s) t) :
    ∃ s' t', runTruth step decl s t ops = .ok (s', t') ∧ runOps step s ops = .ok s' ∧ I s' ∧ Coh (ents s') t' := by
  induction ops generalizing s t with
  | nil => exact ⟨s, t, rfl, rfl, hi, hc⟩
  | cons o rest ih =>
    obtain ⟨s1, h1, hi1, ho⟩ := hstep s o hi
    obtain ⟨s2, t2, hr, hr2, hi2, hc2⟩ := ih s1 ((decl s o).upd t) hi1 (coh_step _ _ t _ ho hc)
    exact ⟨s2, t2, by simp only [runTruth, h1, hr], by simp only [runOps, h1, hr2], hi2, hc2⟩

end M
