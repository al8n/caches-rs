/- What the segmented-LRU policy `SlruSpec` does to well-formed lists: the flow of entries through each operation over
   probationary ++ protected. `promote` is staged first (a probationary hit moves to protected, whose LRU is demoted when
   it is full), so that `put` and `get` on a probationary key share it. -/
import Caches.Lemmas.Flow
import Caches.Props.SlruMachine
namespace M.SlruSpec
open List
variable {κ ν : Type} [DecidableEq κ]

structure WF (P Q : AL κ ν) (pcap qcap : Nat) : Prop where
  nd : (keys (P ++ Q)).Nodup
  bp : P.length ≤ pcap
  bq : Q.length ≤ qcap
  pp : 0 < pcap
  pq : 0 < qcap

variable {P Q P' Q' : AL κ ν} {pcap qcap pc qc : Nat} {k : κ}

/-! Where the policy bounds a list it is `push`: a promotion pushes onto protected and hands what falls out to
    probationary; a new key is pushed onto probationary; `put_protected` pushes onto protected (`putProtected_eq`, below). -/

theorem promote_eq (P Q : AL κ ν) (k : κ) (val : ν) :
    promote P Q qcap k val = ((push qcap (k, val) Q).2.toList ++ erase k P, (push qcap (k, val) Q).1) := by
  unfold promote push
  split
  · cases hl : Q.getLast? with
    | some dem => rfl
    | none => cases getLast?_eq_none_iff.1 hl; rfl
  · rfl

theorem put_absent (hq : find k Q = none) (hp : find k P = none) (v : ν) :
    put P Q pcap qcap k v = ((push pcap (k, v) P).1, Q, .of none (push pcap (k, v) P).2) := by
  unfold put push
  simp only [hq, hp]
  split
  · cases hl : P.getLast? with
    | some lru => rfl
    | none => cases getLast?_eq_none_iff.1 hl; rfl
  · rfl

theorem promote_flow {old : ν} (h : WF P Q pcap qcap) (hp : find k P = some old) (val : ν) :
    let r := promote P Q qcap k val
    Flow k [(k, val)] (P ++ Q) (r.1 ++ r.2) [] ∧ r.1.length ≤ pcap ∧ r.2.length ≤ qcap := by
  letI := Classical.typeDecidableEq ν
  have hlen := length_erase_of_find hp
  have hE := push_eq qcap (k, val) Q
  rw [promote_eq P Q k val]
  refine ⟨perm_iff_count.2 fun x => ?_, ?_, length_push h.pq h.bq _⟩
  · have := congrArg (count x) hE
    simp only [erase_append_left hp, count_append, count_cons, count_nil] at this ⊢; omega
  · have := h.bp
    cases (push qcap (k, val) Q).2 <;> simp only [Option.toList, length_append, length_cons, length_nil] <;> omega

theorem promote_snd (P Q : AL κ ν) (qcap : Nat) (k : κ) (val : ν) :
    ∃ t, (promote P Q qcap k val).2 = (k, val) :: t := by
  unfold promote; repeat' split
  all_goals exact ⟨_, rfl⟩

theorem put_flow (h : WF P Q pcap qcap) (k : κ) (v : ν) :
    let r := put P Q pcap qcap k v
    ∃ ev, r.2.2 = .of (find k (P ++ Q)) ev ∧ Flow k [(k, v)] (P ++ Q) (r.1 ++ r.2.1) ev.toList ∧
      (k, v) ∈ r.1 ++ r.2.1 ∧ r.1.length ≤ pcap ∧ r.2.1.length ≤ qcap := by
  letI := Classical.typeDecidableEq ν
  have ⟨nd, bp, bq, pp, pq⟩ := h
  cases hq : find k Q with
  | some old =>
    have hp := find_left_none nd hq
    have := length_erase_of_find hq
    simp only [put, hq]
    exact ⟨none, by simp [find_append, hp, hq, PutResult.of], Flow.hit_right _ hp Q, by simp, bp,
      by simp only [length_cons]; omega⟩
  | none =>
    cases hp : find k P with
    | some old =>
      obtain ⟨hf, b1, b2⟩ := promote_flow h hp v
      simp only [put, hq, hp]
      exact ⟨none, by simp [find_append, hp, hq, PutResult.of], hf, hf.wr_mem, b1, b2⟩
    | none =>
      have hE := push_eq pcap (k, v) P
      rw [put_absent hq hp]
      refine ⟨(push pcap (k, v) P).2, by simp [find_append, hp, hq], perm_iff_count.2 fun x => ?_,
        mem_append_left _ (mem_of_mem_head? (head?_push ..)), length_push pp bp _, bq⟩
      have := congrArg (count x) hE
      simp only [erase_append_right hp, erase_of_find_none hq, count_append, count_cons, count_nil] at this ⊢; omega

theorem get_flow (h : WF P Q pcap qcap) (k : κ) (w : Option ν) :
    let r := get P Q qcap k w
    r.2.2 = find k (P ++ Q) ∧
      Flow k ((find k (P ++ Q)).map fun old => (k, w.getD old)).toList (P ++ Q) (r.1 ++ r.2.1) [] ∧
      r.1.length ≤ pcap ∧ r.2.1.length ≤ qcap := by
  have ⟨nd, bp, bq, pp, pq⟩ := h
  unfold get
  rw [find_append]
  cases hq : find k Q with
  | some old =>
    have hp := find_left_none nd hq
    have := length_erase_of_find hq
    rw [hp]
    exact ⟨rfl, Flow.hit_right _ hp Q, bp, by simp only [length_cons]; omega⟩
  | none =>
    cases hp : find k P with
    | some old => exact ⟨rfl, promote_flow h hp (w.getD old)⟩
    | none => exact ⟨rfl, by simp [Flow, erase_append_right hp, erase_of_find_none hq], bp, bq⟩

theorem remove_eq (nd : (keys (P ++ Q)).Nodup) (k : κ) : remove P Q k = (erase k P, erase k Q, find k (P ++ Q)) := by
  unfold remove
  rw [find_append]
  cases hp : find k P with
  | some old => simp only [erase_of_find_none (find_right_none nd hp), Option.some_or]
  | none =>
    rw [erase_of_find_none hp]
    cases hq : find k Q with
    | some old => rfl
    | none => rw [erase_of_find_none hq]; rfl

theorem putProtected_eq (bq : Q.length ≤ qcap) (k : κ) (v : ν) :
    putProtected P Q qcap k v = (erase k P, (push qcap (k, v) (erase k Q)).1) := by
  unfold putProtected
  cases hq : find k Q with
  | some old =>
    rw [push_room (by have := length_erase_of_find hq; omega)]
    cases hp : find k P <;> simp only [erase_of_find_none, hp]
  | none =>
    rw [erase_of_find_none hq]
    unfold push
    cases hp : find k P <;> simp only [erase_of_find_none, hp] <;> split <;> rfl

theorem putProtected_flow (h : WF P Q pcap qcap) (k : κ) (v : ν) :
    let r := putProtected P Q qcap k v
    ∃ ev : Option (κ × ν), Flow k [(k, v)] (P ++ Q) (r.1 ++ r.2) ev.toList ∧ r.1.length ≤ pcap ∧ r.2.length ≤ qcap ∧
      (k, v) ∈ r.2 ∧ find k r.1 = none := by
  have ⟨nd, bp, bq, pp, pq⟩ := h
  have hE := push_eq qcap (k, v) (erase k Q)
  rw [putProtected_eq bq]
  refine ⟨(push qcap (k, v) (erase k Q)).2, ?_, Nat.le_trans (length_erase_le k P) bp,
    length_push pq (Nat.le_trans (length_erase_le k Q) bq) _, mem_of_mem_head? (head?_push ..),
    find_erase_self k P (nodup_keys_left nd)⟩
  simp only [Flow, erase_append nd, singleton_append, append_assoc, ← hE]
  exact perm_middle.symm

theorem peekMut_eq (nd : (keys (P ++ Q)).Nodup) (k : κ) (w : Option ν) :
    peekMut P Q k w = (writeAt k w P, writeAt k w Q) := by
  unfold peekMut writeAt
  cases hq : find k Q with
  | some old => cases w <;> simp only [setVal_of_find_none _ (find_left_none nd hq)]
  | none =>
    cases hp : find k P with
    | some old => cases w <;> simp only [setVal_of_find_none _ hq]
    | none => cases w <;> simp only [setVal_of_find_none _ hq, setVal_of_find_none _ hp]

theorem WF.of_flow {ins outs : AL κ ν} (h : WF P Q pc qc) (hf : Flow k ins (P ++ Q) (P' ++ Q') outs)
    (hk : ins = [] ∨ ∃ v, ins = [(k, v)]) (bp : P'.length ≤ pc) (bq : Q'.length ≤ qc) : WF P' Q' pc qc :=
  ⟨hf.nodup_left h.nd hk, bp, bq, h.pp, h.pq⟩

theorem WF.writeAt (h : WF P Q pc qc) (k : κ) (w : Option ν) : WF (writeAt k w P) (writeAt k w Q) pc qc :=
  ⟨by simpa only [keys_append, keys_writeAt] using h.nd, by simpa only [length_writeAt] using h.bp,
    by simpa only [length_writeAt] using h.bq, h.pp, h.pq⟩

omit [DecidableEq κ] in
theorem WF.sub (h : WF P Q pc qc) (hp : P'.Sublist P) (hq : Q'.Sublist Q) : WF P' Q' pc qc :=
  ⟨((hp.append hq).map _).nodup h.nd, Nat.le_trans hp.length_le h.bp, Nat.le_trans hq.length_le h.bq, h.pp, h.pq⟩

theorem step_wf (h : WF P Q pc qc) (o : SlruOp κ ν) : WF (step pc qc (P, Q) o).1 (step pc qc (P, Q) o).2 pc qc := by
  cases o with
  | put k v => obtain ⟨ev, _, hf, _, b1, b2⟩ := put_flow h k v; exact h.of_flow hf (.inr ⟨_, rfl⟩) b1 b2
  | putProtected k v => obtain ⟨ev, hf, b1, b2, _⟩ := putProtected_flow h k v; exact h.of_flow hf (.inr ⟨_, rfl⟩) b1 b2
  | getMut k w =>
    obtain ⟨_, hf, b1, b2⟩ := get_flow h k w
    exact h.of_flow hf (by cases find k (P ++ Q) <;> simp) b1 b2
  | peekMut k w => simpa only [step, peekMut_eq h.nd] using h.writeAt k w
  | remove k => simpa only [step, remove_eq h.nd] using h.sub (erase_sublist ..) (erase_sublist ..)
  | purge => exact h.sub (nil_sublist _) (nil_sublist _)
  | removeLruProb => exact h.sub (dropLast_sublist _) (Sublist.refl _)
  | removeLruProt => exact h.sub (Sublist.refl _) (dropLast_sublist _)
  | clone | read => exact h

end M.SlruSpec
