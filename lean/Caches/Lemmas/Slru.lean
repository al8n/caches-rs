/- `Slru`: the invariant, and the one walk over the model: every operation computes the policy `SlruSpec` on the two
   lists and leaves the capacities alone (`step_spec`). What the policy does to well-formed lists is in `SlruFlow`. Every history is then the fold of the policy (`run_spec`).
   Last come what the cache owes to coherence (C02) and the objects it holds (C04). -/
import Caches.Lemmas.Conserve
import Caches.Lemmas.Coherence
import Caches.Lemmas.RawLru
import Caches.Lemmas.SlruFlow
set_option linter.unusedSectionVars false
namespace M
open List
variable {κ ν : Type} [DecidableEq κ]
namespace Slru

structure Inv (s : Slru κ ν) : Prop where
  ndp : (keys s.prob.items).Nodup
  ndq : (keys s.prot.items).Nodup
  disj : ∀ x, x ∈ keys s.prob.items → x ∉ keys s.prot.items
  bp : s.prob.items.length ≤ s.prob.cap
  bq : s.prot.items.length ≤ s.prot.cap
  pp : 0 < s.prob.cap
  pq : 0 < s.prot.cap

def Held (s : Slru κ ν) (x : κ) : Prop := x ∈ keys s.prob.items ∨ x ∈ keys s.prot.items

theorem held_iff (s : Slru κ ν) (x : κ) : Held s x ↔ x ∈ keys (s.prob.items ++ s.prot.items) := by
  rw [keys_append, mem_append]; rfl

def set (s : Slru κ ν) (PQ : AL κ ν × AL κ ν) : Slru κ ν :=
  { prob := { s.prob with items := PQ.1 }, prot := { s.prot with items := PQ.2 } }

theorem inv_iff (s : Slru κ ν) : s.Inv ↔ SlruSpec.WF s.prob.items s.prot.items s.prob.cap s.prot.cap := by
  constructor
  · rintro ⟨ndp, ndq, dj, bp, bq, pp, pq⟩
    exact ⟨by rw [keys_append, nodup_append_iff]; exact ⟨ndp, ndq, dj⟩, bp, bq, pp, pq⟩
  · rintro ⟨nd, bp, bq, pp, pq⟩
    rw [keys_append, nodup_append_iff] at nd
    exact ⟨nd.1, nd.2.1, nd.2.2, bp, bq, pp, pq⟩

theorem Inv.wf {s : Slru κ ν} (h : s.Inv) : SlruSpec.WF s.prob.items s.prot.items s.prob.cap s.prot.cap := (inv_iff s).1 h

theorem new_ok {p q : Nat} {s : Slru κ ν} (h : Slru.new p q = some s) :
    s = { prob := { cap := p, items := [] }, prot := { cap := q, items := [] } } ∧ 0 < p ∧ 0 < q := by
  unfold Slru.new at h
  split at h
  · cases h
  · split at h
    · cases h
    · cases h; exact ⟨rfl, by omega, by omega⟩

theorem inv_new {p q : Nat} {s : Slru κ ν} (h : Slru.new p q = some s) : s.Inv := by
  obtain ⟨rfl, hp, hq⟩ := new_ok h
  exact { ndp := nodup_nil, ndq := nodup_nil, disj := (fun _ h => nomatch h), bp := Nat.zero_le _, bq := Nat.zero_le _,
          pp := hp, pq := hq }

variable {s : Slru κ ν} {k : κ}

theorem promote_spec {old : ν} (w : Option ν) (h : s.Inv) (hf : find k s.prob.items = some old) :
    s.promote k w = .ok (some old, s.set (SlruSpec.promote s.prob.items s.prot.items s.prot.cap k (w.getD old))) := by
  have hlen := length_erase_of_find hf
  have := h.bp
  unfold Slru.promote
  simp only [RawLru.removeEnt_some _ k old hf, RawLru.putOrEvict_eq _ _ h.pq, SlruSpec.promote_eq]
  cases (push s.prot.cap (k, w.getD old) s.prot.items).2 with
  | none => rfl
  | some dem =>
    simp only [RawLru.putNonnull_room { s.prob with items := erase k s.prob.items } dem (by simp only; omega)]; rfl

theorem put_spec (h : s.Inv) (k : κ) (v : ν) :
    s.put k v = .ok (let r := SlruSpec.put s.prob.items s.prot.items s.prob.cap s.prot.cap k v
      (r.2.2, s.set (r.1, r.2.1), r.2.2.keyBack k)) := by
  cases hq : find k s.prot.items with
  | some old => simp only [Slru.put, SlruSpec.put, hq]; rfl
  | none =>
    cases hp : find k s.prob.items with
    | some old =>
      simp only [Slru.put, SlruSpec.put, hq, RawLru.contains, hp, Option.isSome_some, if_true, promote_spec (some v) h hp]
      rfl
    | none =>
      obtain ⟨e, he, hd⟩ := RawLru.put_eq s.prob k v h.pp h.bp
      rw [hp, erase_of_find_none hp] at he
      simp only [Slru.put, SlruSpec.put_absent hq hp, hq, RawLru.contains, hp, Option.isSome_none,
        Bool.false_eq_true, if_false, he, hd]
      cases (push s.prob.cap (k, v) s.prob.items).2 <;> rfl

theorem getMut_spec (h : s.Inv) (k : κ) (w : Option ν) :
    s.getMut k w = .ok (let r := SlruSpec.get s.prob.items s.prot.items s.prot.cap k w; (r.2.2, s.set (r.1, r.2.1))) := by
  unfold SlruSpec.get Slru.getMut RawLru.getMut
  cases hq : find k s.prot.items with
  | some old => rfl
  | none =>
    cases hp : find k s.prob.items with
    | some old => simp only [promote_spec w h hp]
    | none => rfl

theorem putProtected_spec (h : s.Inv) (k : κ) (v : ν) :
    ∃ r d, s.putProtected k v =
      .ok (r, s.set (SlruSpec.putProtected s.prob.items s.prot.items s.prot.cap k v), d) := by
  obtain ⟨e, hput, -⟩ := RawLru.put_eq s.prot k v h.pq h.bq
  generalize PutResult.of (find k s.prot.items) _ = r at hput
  unfold Slru.putProtected RawLru.remove
  rw [SlruSpec.putProtected_eq h.bq]
  -- what happened to probationary only changes the report
  cases hp : find k s.prob.items with
  | none => simp only [hput, erase_of_find_none hp]; exact ⟨_, _, rfl⟩
  | some old => simp only [hput]; cases r <;> exact ⟨_, _, rfl⟩

theorem putProtected_fresh (s : Slru κ ν) (k : κ) (v : ν)
    (hp : find k s.prob.items = none) (hq : find k s.prot.items = none) (hroom : s.prot.items.length < s.prot.cap) :
    s.putProtected k v = .ok (.put, { s with prot := { s.prot with items := (k, v) :: s.prot.items } }, []) := by
  unfold Slru.putProtected RawLru.remove
  simp only [hp, RawLru.put_absent_room s.prot k v hq hroom]

theorem remove_spec (s : Slru κ ν) (k : κ) :
    (s.remove k).1 = s.set ((SlruSpec.remove s.prob.items s.prot.items k).1, (SlruSpec.remove s.prob.items s.prot.items k).2.1) ∧
    (s.remove k).2.1 = (SlruSpec.remove s.prob.items s.prot.items k).2.2 := by
  unfold Slru.remove RawLru.remove SlruSpec.remove
  cases find k s.prob.items <;> cases find k s.prot.items <;> exact ⟨rfl, rfl⟩

theorem peekMut_spec (s : Slru κ ν) (k : κ) (w : Option ν) :
    (s.peekMut k w).1 = s.set (SlruSpec.peekMut s.prob.items s.prot.items k w) := by
  unfold Slru.peekMut RawLru.peekMut SlruSpec.peekMut
  cases find k s.prot.items <;> cases find k s.prob.items <;> cases w <;> rfl

theorem purge_spec (s : Slru κ ν) : ∃ d, s.purge = .ok (s.set ([], []), d) := by
  simp only [Slru.purge, RawLru.purge_spec]; exact ⟨_, rfl⟩

theorem clone_eq (s : Slru κ ν) (h : s.Inv) : s.cloneImpl = .ok s := by
  unfold Slru.cloneImpl
  rw [RawLru.clone_eq s.prob ⟨h.ndp, h.bp⟩, RawLru.clone_eq s.prot ⟨h.ndq, h.bq⟩]

theorem step_spec (h : s.Inv) (o : SlruOp κ ν) :
    s.step o = .ok (s.set (SlruSpec.step s.prob.cap s.prot.cap (s.prob.items, s.prot.items) o)) := by
  cases o with
  | put k v => simp only [Slru.step, put_spec h k v]; rfl
  | putProtected k v => obtain ⟨r, d, hd⟩ := putProtected_spec h k v; simp only [Slru.step, hd]; rfl
  | getMut k w => simp only [Slru.step, getMut_spec h k w]; rfl
  | peekMut k w => simp only [Slru.step, peekMut_spec]; rfl
  | remove k => simp only [Slru.step, (remove_spec s k).1]; rfl
  | purge => obtain ⟨d, hd⟩ := purge_spec s; simp only [Slru.step, hd]; rfl
  | removeLruProb => simp only [Slru.step, Slru.removeLruFromProbationary, RawLru.removeLru_fst]; rfl
  | removeLruProt => simp only [Slru.step, Slru.removeLruFromProtected, RawLru.removeLru_fst]; rfl
  | clone => exact clone_eq s h
  | read => rfl

theorem Inv.step (h : s.Inv) (o : SlruOp κ ν) :
    (s.set (SlruSpec.step s.prob.cap s.prot.cap (s.prob.items, s.prot.items) o)).Inv :=
  (inv_iff _).2 (SlruSpec.step_wf h.wf o)

theorem step_inv (s : Slru κ ν) (o : SlruOp κ ν) (h : s.Inv) : ∃ s', s.step o = .ok s' ∧ s'.Inv :=
  ⟨_, step_spec h o, h.step o⟩

theorem run_spec (h : s.Inv) (ops : List (SlruOp κ ν)) :
    runOps Slru.step s ops = .ok (s.set (ops.foldl (SlruSpec.step s.prob.cap s.prot.cap) (s.prob.items, s.prot.items))) ∧
    (s.set (ops.foldl (SlruSpec.step s.prob.cap s.prot.cap) (s.prob.items, s.prot.items))).Inv := by
  induction ops generalizing s with
  | nil => exact ⟨rfl, h⟩
  | cons o rest ih => simp only [runOps, step_spec h o, foldl_cons]; exact ih (h.step o)

/-! ### what each operation owes to coherence (C02): the resident entries are probationary ++ protected -/
def ents (s : Slru κ ν) : AL κ ν := s.prob.items ++ s.prot.items

def decl (s : Slru κ ν) : SlruOp κ ν → Decl κ ν
  | .put k v => keyDecl k (some (k, v))
  | .putProtected k v => keyDecl k (some (k, v))
  | .getMut k w => RawLru.writeDecl k ((find k s.prot.items).isSome || (find k s.prob.items).isSome) w
  | .peekMut k w => RawLru.writeDecl k ((find k s.prot.items).isSome || (find k s.prob.items).isSome) w
  | .remove k => keyDecl k none
  | .purge => { wr := none, kills := fun _ => true }
  | .removeLruProb | .removeLruProt | .clone | .read => Decl.none

/-- `peek` answers `find k ents`: probationary and protected share no key, so that it looks in protected first does not matter -/
theorem peek_eq (h : s.Inv) (k : κ) : s.peek k = find k s.ents := by
  unfold Slru.peek RawLru.peek ents; rw [find_append]
  cases hq : find k s.prot.items with
  | none => cases find k s.prob.items <;> rfl
  | some v => rw [find_left_none h.wf.nd hq]; rfl

theorem step_owes (s : Slru κ ν) (o : SlruOp κ ν) (h : s.Inv) :
    ∃ s', s.step o = .ok s' ∧ s'.Inv ∧ Owes (s.decl o) s.ents s'.ents := by
  refine ⟨_, step_spec h o, h.step o, ?_⟩
  have hw := h.wf
  have hres : ∀ k, ((find k s.prot.items).isSome || (find k s.prob.items).isSome) = (find k s.ents).isSome := fun k => by
    rw [ents, find_append, Option.isSome_or, Bool.or_comm]
  cases o with
  | put k v => obtain ⟨ev, _, hf, _⟩ := SlruSpec.put_flow hw k v; exact hf.owes (wr := some (k, v)) hw.nd (by simp)
  | putProtected k v =>
    obtain ⟨ev, hf, _⟩ := SlruSpec.putProtected_flow hw k v; exact hf.owes (wr := some (k, v)) hw.nd (by simp)
  | getMut k w =>
    obtain ⟨_, hf, _⟩ := SlruSpec.get_flow hw k w; simp only [decl, hres]; exact Flow.owes_write hw.nd hf
  | peekMut k w => simp only [decl, hres, SlruSpec.step, SlruSpec.peekMut_eq hw.nd]; exact owes_writeAt hw.nd k w
  | remove k => simp only [SlruSpec.step, SlruSpec.remove_eq hw.nd]; exact owes_erase hw.nd k
  | purge => exact owes_all _
  | removeLruProb => exact owes_none _ _ fun e he => (List.dropLast_sublist _ |>.append_right _).subset he
  | removeLruProt => exact owes_none _ _ fun e he => (List.dropLast_sublist _ |>.append_left _).subset he
  | clone | read => exact owes_none _ _ fun e he => he

/-! ### the objects the two segments hold (C04), and what `remove_lru_from_probationary` / `_protected` do to them -/
section held
variable [DecidableEq ν]

def heldAll (s : Slru κ ν) : List (Obj κ ν) := held s.prob.items ++ held s.prot.items

theorem heldAll_eq (s : Slru κ ν) : s.heldAll = held (s.prob.items ++ s.prot.items) := (held_append ..).symm

theorem drop_count (s : Slru κ ν) : s.dropCache = s.heldAll := rfl

theorem removeLru_count (s : Slru κ ν) (o : Obj κ ν) :
    (s.heldAll.count o = s.removeLruFromProbationary.1.heldAll.count o +
      (objsE s.removeLruFromProbationary.2).count o) ∧
    (s.heldAll.count o = s.removeLruFromProtected.1.heldAll.count o +
      (objsE s.removeLruFromProtected.2).count o) := by
  constructor
  · fun_cases Slru.removeLruFromProbationary s
    have := RawLru.removeLru_count ‹_› o
    simp only [heldAll, List.count_append] at this ⊢; omega
  · fun_cases Slru.removeLruFromProtected s
    have := RawLru.removeLru_count ‹_› o
    simp only [heldAll, List.count_append] at this ⊢; omega

end held
end Slru

end M
