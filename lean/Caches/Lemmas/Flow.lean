/- Flows of entries. Every operation of every cache that works on a key `k` does the same thing to the list `A` of
   entries it looks at: the entry under `k` goes, the entries `ins` come in (what the operation stores under `k`; nothing
   for a removal or a miss), every other entry stays, in some order, or leaves through `outs`:

       ins ++ erase k A ~ A' ++ outs

   Distinct keys afterwards (the invariants), where each entry afterwards comes from (coherence, C02), what a
   `PutResult` claims (C12) and the per-object counts (C04) are all read off this one permutation. -/
import Caches.Lemmas.Assoc
import Caches.Model.Basic
namespace M
open List
variable {κ ν : Type} [DecidableEq κ]

/-! A permutation goal at a leaf of a policy's case tree is closed by counting (`perm_iff_count`, these two lemmas, `omega`).
    Counting needs `DecidableEq ν`, which no statement about flows mentions: the proofs that count take it classically
    (`letI := Classical.typeDecidableEq ν`). -/
section count
variable [DecidableEq ν]

theorem count_erase {k : κ} {old : ν} {l : AL κ ν} (h : find k l = some old) (x : κ × ν) :
    l.count x = (erase k l).count x + [(k, old)].count x := by
  rw [← (perm_erase h).count_eq x, count_cons, count_cons, count_nil, Nat.zero_add]

theorem count_dropLast {l : AL κ ν} {e : κ × ν} (h : l.getLast? = some e) (x : κ × ν) :
    l.count x = l.dropLast.count x + [e].count x := by
  obtain ⟨l, rfl⟩ := getLast?_eq_some_iff.1 h
  simp [count_append]

end count

/-- `e` enters a list bounded by `cap` at its most-recent end; a full list gives up its least-recent entry. The SLRU, 2Q
    and ARC policies do this to one of their lists (a demotion, an admission, a ghost remembered), and so do `put`,
    `put_or_evict_nonnull` and `put_nonnull` of the plain LRU (`RawLru.put_eq`, `putOrEvict_eq`, `putNonnull_eq`). -/
def push (cap : Nat) (e : κ × ν) (l : AL κ ν) : AL κ ν × Option (κ × ν) :=
  if l.length ≥ cap then (e :: l.dropLast, l.getLast?) else (e :: l, none)

omit [DecidableEq κ] in
theorem push_eq (cap : Nat) (e : κ × ν) (l : AL κ ν) : e :: l = (push cap e l).1 ++ (push cap e l).2.toList := by
  unfold push
  split
  · rw [cons_append, dropLast_append_getLast?_toList]
  · simp

omit [DecidableEq κ] in
theorem length_push {cap : Nat} {l : AL κ ν} (hc : 0 < cap) (hl : l.length ≤ cap) (e : κ × ν) :
    (push cap e l).1.length ≤ cap := by
  unfold push
  split
  · simp only [length_cons, length_dropLast]; omega
  · simp only [length_cons]; omega

omit [DecidableEq κ] in
theorem push_room {cap : Nat} {l : AL κ ν} (h : l.length < cap) (e : κ × ν) : push cap e l = (e :: l, none) :=
  if_neg (Nat.not_le.2 h)

omit [DecidableEq κ] in
theorem head?_push (cap : Nat) (e : κ × ν) (l : AL κ ν) : (push cap e l).1.head? = some e := by
  unfold push; split <;> rfl

omit [DecidableEq κ] in
theorem getLast?_of_push {cap : Nat} {e x : κ × ν} {l : AL κ ν} (h : (push cap e l).2 = some x) : l.getLast? = some x := by
  unfold push at h
  split at h
  · exact h
  · cases h

/-- the list after a lookup of `k` that writes `w` (if any) through the reference it returns: the value changes where the
    entry stands -/
def writeAt (k : κ) (w : Option ν) (l : AL κ ν) : AL κ ν :=
  match w with
  | some w => setVal k w l
  | none => l

theorem keys_writeAt (k : κ) (w : Option ν) (l : AL κ ν) : keys (writeAt k w l) = keys l := by
  cases w <;> simp only [writeAt, keys_setVal]

theorem length_writeAt (k : κ) (w : Option ν) (l : AL κ ν) : (writeAt k w l).length = l.length := by
  cases w <;> simp only [writeAt, length_setVal]

theorem writeAt_append {k : κ} {A B : AL κ ν} (w : Option ν) (nd : (keys (A ++ B)).Nodup) :
    writeAt k w (A ++ B) = writeAt k w A ++ writeAt k w B := by
  cases w <;> simp only [writeAt, setVal_append _ nd]

def Flow (k : κ) (ins A A' outs : AL κ ν) : Prop := ins ++ erase k A ~ A' ++ outs

namespace Flow
variable {k : κ} {ins A A' outs : AL κ ν}

theorem nodup (h : Flow k ins A A' outs) (nd : (keys A).Nodup) (hk : ins = [] ∨ ∃ v, ins = [(k, v)]) :
    (keys (A' ++ outs)).Nodup := by
  refine ((h.map Prod.fst).nodup_iff).1 ?_
  rcases hk with rfl | ⟨v, rfl⟩
  · exact nodup_erase k A nd
  · exact nodup_cons.2 ⟨not_mem_keys_erase k A nd, nodup_erase k A nd⟩

theorem nodup_left (h : Flow k ins A A' outs) (nd : (keys A).Nodup) (hk : ins = [] ∨ ∃ v, ins = [(k, v)]) :
    (keys A').Nodup :=
  nodup_keys_left (h.nodup nd hk)

theorem mem (h : Flow k ins A A' outs) (nd : (keys A).Nodup) {e : κ × ν} (he : e ∈ A') :
    e ∈ ins ∨ (e ∈ A ∧ e.1 ≠ k) := by
  have := (h.mem_iff (a := e)).2 (mem_append_left _ he)
  rwa [mem_append, mem_erase_iff e k A nd] at this

theorem read (k : κ) (A : AL κ ν) : Flow k ((find k A).map fun old => (k, old)).toList A A [] := by
  cases h : find k A with
  | none => simp [Flow, erase_of_find_none h]
  | some old => simpa [Flow] using perm_erase h

theorem keys_write {f : ν → ν} (h : Flow k ((find k A).map fun old => (k, f old)).toList A A' []) : keys A' ~ keys A := by
  have h1 := h.map Prod.fst
  have h2 := (Flow.read k A).map Prod.fst
  rw [append_nil] at h1 h2
  refine h1.symm.trans (Perm.trans ?_ h2)
  cases find k A <;> exact .refl _

theorem mem_out (h : Flow k ins A A' outs) {e : κ × ν} (he : e ∈ A) (hk : e.1 ≠ k) :
    e ∈ A' ∨ e ∈ outs :=
  mem_append.1 (h.mem_iff.1 (mem_append_right _ (mem_erase_of_ne e k A he hk)))

theorem wr_mem {e : κ × ν} (h : Flow k [e] A A' []) : e ∈ A' := by
  simpa using h.mem_iff.1 (mem_cons_self ..)

theorem append_left {W : AL κ ν} (hW : find k W = none) (h : Flow k ins A A' outs) :
    Flow k ins (W ++ A) (W ++ A') outs := by
  unfold Flow at *
  rw [erase_append_right hW, append_assoc]
  exact perm_append_comm_assoc .. |>.trans (h.append_left W)

theorem comp {mid B B' : AL κ ν} (h₁ : Flow k ins A A' mid) (h₂ : Flow k mid B B' outs)
    (nd : (keys (A ++ B)).Nodup) : Flow k ins (A ++ B) (A' ++ B') outs := by
  unfold Flow at *
  rw [erase_append nd, ← append_assoc]
  calc ins ++ erase k A ++ erase k B ~ A' ++ mid ++ erase k B := h₁.append_right _
    _ = A' ++ (mid ++ erase k B) := append_assoc ..
    _ ~ A' ++ (B' ++ outs) := h₂.append_left A'
    _ = A' ++ B' ++ outs := (append_assoc ..).symm

end Flow

theorem Flow.of_writeAt (k : κ) (w : Option ν) (A : AL κ ν) :
    Flow k ((find k A).map fun old => (k, w.getD old)).toList A (writeAt k w A) [] := by
  cases w with
  | none => exact Flow.read k A
  | some w =>
    cases h : find k A with
    | none => simp [Flow, writeAt, setVal_of_find_none w h, erase_of_find_none h]
    | some old => simpa [Flow, writeAt] using perm_setVal w h

theorem Flow.of_erase (k : κ) (A : AL κ ν) : Flow k [] A (erase k A) [] := by simp [Flow]

theorem Flow.miss {k : κ} {A : AL κ ν} (h : find k A = none) : Flow k [] A A [] := by simp [Flow, erase_of_find_none h]

/-- a hit moves the entry, as rewritten, to the front of the second list: from the first list, or within the second -/
theorem Flow.hit_left {k : κ} {old : ν} {A : AL κ ν} (e : κ × ν) (h : find k A = some old) (B : AL κ ν) :
    Flow k [e] (A ++ B) (erase k A ++ e :: B) [] := by
  simpa [Flow, erase_append_left h] using perm_middle.symm

theorem Flow.hit_right {k : κ} {A : AL κ ν} (e : κ × ν) (h : find k A = none) (B : AL κ ν) :
    Flow k [e] (A ++ B) (A ++ e :: erase k B) [] := by
  simpa [Flow, erase_append_right h] using perm_middle.symm

/-- the `PutResult` that reports the old value `old` of the key and the entry `ev` pushed out for good -/
def PutResult.of : Option ν → Option (κ × ν) → PutResult κ ν
  | none, none => .put
  | some old, none => .update old
  | none, some e => .evicted e.1 e.2
  | some old, some e => .evictedAndUpdate e.1 e.2 old

/-- what a `put` drops itself: the key object handed in, when the key was already retained (the node keeps its own) -/
def PutResult.keyBack (k : κ) : PutResult κ ν → List (Obj κ ν)
  | .update _ | .evictedAndUpdate _ _ _ => [.key k]
  | .put | .evicted _ _ => []

/-- What a `PutResult` claims (C12). `ret` / `ret'`: the retained entries before / after `put k v`.
    `Put`: the key was not retained and nothing left; `Update old`: the key was retained with value `old`, only its entry
    changed; `Evicted ek ev`: the key was not retained, exactly the retained entry `(ek, ev)` left;
    `EvictedAndUpdate ek ev old`: both. In every case `(k, v)` is retained afterwards. -/
def PutTruth (ret ret' : AL κ ν) (k : κ) (v : ν) : PutResult κ ν → Prop
  | .put => k ∉ keys ret ∧ ∀ e, e ∈ ret' ↔ e = (k, v) ∨ e ∈ ret
  | .update old => (k, old) ∈ ret ∧ ∀ e, e ∈ ret' ↔ e = (k, v) ∨ (e ∈ ret ∧ e.1 ≠ k)
  | .evicted ek ev => k ∉ keys ret ∧ (ek, ev) ∈ ret ∧ ∀ e, e ∈ ret' ↔ e = (k, v) ∨ (e ∈ ret ∧ e ≠ (ek, ev))
  | .evictedAndUpdate ek ev old =>
      (k, old) ∈ ret ∧ (ek, ev) ∈ ret ∧ ek ≠ k ∧ ∀ e, e ∈ ret' ↔ e = (k, v) ∨ (e ∈ ret ∧ e.1 ≠ k ∧ e ≠ (ek, ev))

theorem PutTruth.of_flow {A A' : AL κ ν} {k : κ} {v : ν} {ev : Option (κ × ν)} (nd : (keys A).Nodup)
    (hf : Flow k [(k, v)] A A' ev.toList) (hin : (k, v) ∈ A') : PutTruth A A' k v (.of (find k A) ev) := by
  -- the two facts the four claims are made of: who is somewhere afterwards (`hm`), and that what left is neither still
  -- there nor the entry written (`hd`); the rest is set algebra per case of the result
  have hm : ∀ e, e ∈ A' ∨ e ∈ ev ↔ e = (k, v) ∨ (e ∈ A ∧ e.1 ≠ k) := fun e => by
    simpa [mem_erase_iff e k A nd] using (hf.mem_iff (a := e)).symm
  have hn := hf.nodup nd (.inr ⟨v, rfl⟩)
  rw [keys_append, nodup_append_iff] at hn
  have hd : ∀ e ∈ ev, e ∉ A' ∧ e.1 ≠ k := fun e he =>
    ⟨fun h => hn.2.2 e.1 (mem_keys_of_mem h) (mem_keys_of_mem (Option.mem_toList.2 he)),
     fun h => hn.2.2 k (mem_keys_of_mem hin) (h ▸ mem_keys_of_mem (Option.mem_toList.2 he))⟩
  clear hf hn nd    -- keeps `grind`'s context to what it needs
  cases hfk : find k A with
  | none =>
    have hnk := (find_none_iff k A).1 hfk
    have hk : ∀ e ∈ A, e.1 ≠ k := fun e he hc => hnk (hc ▸ mem_keys_of_mem he)
    cases ev with
    | none => exact ⟨hnk, fun e => by grind⟩
    | some x => exact ⟨hnk, by grind, fun e => by grind⟩
  | some old =>
    have ho := find_mem hfk
    cases ev with
    | none => exact ⟨ho, fun e => by grind⟩
    | some x => exact ⟨ho, by grind, by grind, fun e => by grind⟩

end M
