/- The plain LRU: the invariant; the four outcomes of `put` and its flow, from which every other fact about `put` is read;
   lookups as flows; the positional operations as the keyed ones at the key they address; closed forms of the `purge` and
   `resize` loops; `clone`; the crate-internal node primitives the composite caches are built from; `Departures` (C15). -/
import Caches.Model.RawLru
import Caches.Lemmas.Flow
set_option linter.unusedSectionVars false
namespace M
variable {κ ν : Type} [DecidableEq κ]

namespace RawLru

structure Inv (c : RawLru κ ν) : Prop where
  nd : (keys c.items).Nodup
  bound : c.items.length ≤ c.cap

theorem new_ok {cap : Nat} {cb : Bool} {c : RawLru κ ν} (h : RawLru.new cap cb = some c) :
    c = { cap := cap, items := [], hasCb := cb } ∧ 0 < cap := by
  unfold RawLru.new at h
  split at h
  · cases h
  · cases h; exact ⟨rfl, by omega⟩

theorem inv_new {cap : Nat} {cb : Bool} {c : RawLru κ ν} (h : RawLru.new cap cb = some c) : c.Inv := by
  obtain ⟨rfl, -⟩ := new_ok h; exact ⟨List.nodup_nil, Nat.zero_le _⟩

theorem Inv.items {c : RawLru κ ν} (h : c.Inv) {l : AL κ ν} (nd : (keys l).Nodup) (hl : l.length ≤ c.items.length) :
    ({ c with items := l } : RawLru κ ν).Inv := ⟨nd, Nat.le_trans hl h.bound⟩

theorem Inv.flow {c : RawLru κ ν} (h : c.Inv) {k : κ} {ins l outs : AL κ ν} (hf : Flow k ins c.items l outs)
    (hk : ins = [] ∨ ∃ v, ins = [(k, v)]) (hl : l.length ≤ c.cap) : ({ c with items := l } : RawLru κ ν).Inv :=
  ⟨hf.nodup_left h.nd hk, hl⟩

theorem Inv.write {c : RawLru κ ν} (h : c.Inv) {k : κ} {f : ν → ν} {l : AL κ ν}
    (hfl : Flow k ((find k c.items).map fun old => (k, f old)).toList c.items l []) :
    ({ c with items := l } : RawLru κ ν).Inv :=
  have hp := hfl.keys_write
  ⟨hp.nodup_iff.2 h.nd, by have := hp.length_eq; rw [length_keys, length_keys] at this; exact this ▸ h.bound⟩

theorem put_present (c : RawLru κ ν) (k : κ) (v old : ν) (h : find k c.items = some old) :
    c.put k v = .ok ({ c with items := use k v c.items }, .update old, { drops := [.key k] }) := by
  simp [RawLru.put, h]

theorem put_absent_room (c : RawLru κ ν) (k : κ) (v : ν)
    (hk : find k c.items = none) (hroom : c.items.length < c.cap) :
    c.put k v = .ok ({ c with items := (k, v) :: c.items }, .put, {}) := by
  have h0 : c.cap ≠ 0 := by omega
  have h1 : c.items.length ≠ c.cap := by omega
  simp [RawLru.put, hk, h0, h1]

theorem put_absent_full (c : RawLru κ ν) (k : κ) (v : ν) (e : κ × ν)
    (hk : find k c.items = none) (hfull : c.items.length = c.cap) (h0 : c.cap ≠ 0)
    (hl : c.items.getLast? = some e) :
    c.put k v = .ok ({ c with items := (k, v) :: c.items.dropLast }, .evicted e.1 e.2, { cbs := c.cbOf e }) := by
  simp [RawLru.put, hk, h0, hfull, hl]

theorem put_cap_zero (c : RawLru κ ν) (k : κ) (v : ν) (hk : find k c.items = none) (h0 : c.cap = 0) :
    c.put k v = .ok (c, .evicted k v, {}) := by
  simp [RawLru.put, hk, h0]

/-- the four outcomes of `put`, in any state (a full cache of capacity ≠ 0 has a last entry, so no fault);
    every other fact about `put` is read off this -/
theorem put_spec (c : RawLru κ ν) (k : κ) (v : ν) :
    (∃ old, find k c.items = some old ∧
      c.put k v = .ok ({ c with items := use k v c.items }, .update old, { drops := [.key k] })) ∨
    (find k c.items = none ∧ c.cap = 0 ∧ c.put k v = .ok (c, .evicted k v, {})) ∨
    (find k c.items = none ∧ c.cap ≠ 0 ∧ c.items.length ≠ c.cap ∧
      c.put k v = .ok ({ c with items := (k, v) :: c.items }, .put, {})) ∨
    (∃ lru, find k c.items = none ∧ c.cap ≠ 0 ∧ c.items.length = c.cap ∧ c.items.getLast? = some lru ∧
      c.put k v = .ok ({ c with items := (k, v) :: c.items.dropLast }, .evicted lru.1 lru.2, { cbs := c.cbOf lru })) := by
  cases hf : find k c.items with
  | some old => exact .inl ⟨old, rfl, put_present c k v old hf⟩
  | none =>
    by_cases h0 : c.cap = 0
    · exact .inr (.inl ⟨rfl, h0, put_cap_zero c k v hf h0⟩)
    · by_cases hfull : c.items.length = c.cap
      · obtain ⟨lru, hl⟩ := getLast?_some_of_pos c.items (by omega)
        exact .inr (.inr (.inr ⟨lru, rfl, h0, hfull, hl, put_absent_full c k v lru hf hfull h0 hl⟩))
      · exact .inr (.inr (.inl ⟨rfl, h0, hfull, by simp [RawLru.put, hf, h0, hfull]⟩))

/-- `ev` is the entry pushed out, if any: at capacity 0 the new entry itself -/
theorem put_flow {c c' : RawLru κ ν} {k : κ} {v : ν} {r : PutResult κ ν} {e : Eff κ ν}
    (hp : c.put k v = .ok (c', r, e)) :
    ∃ ev, r = .of (find k c.items) ev ∧ Flow k [(k, v)] c.items c'.items ev.toList ∧
      (c.cap ≠ 0 → find k c'.items = some v) := by
  rcases put_spec c k v with ⟨old, hf, hq⟩ | ⟨hf, h0, hq⟩ | ⟨hf, _, _, hq⟩ | ⟨lru, hf, _, _, hl, hq⟩ <;>
    (rw [hq] at hp; cases hp; rw [hf])
  · exact ⟨none, rfl, by simp [Flow, use], fun _ => find_cons_self ..⟩
  · exact ⟨some (k, v), rfl, by simpa [Flow, erase_of_find_none hf] using List.perm_append_comm (l₁ := [(k, v)]), fun h => absurd h0 h⟩
  · exact ⟨none, rfl, by simp [Flow, erase_of_find_none hf], fun _ => find_cons_self ..⟩
  · obtain ⟨ys, hys⟩ := List.getLast?_eq_some_iff.1 hl
    exact ⟨some lru, rfl, by simp only [Flow, erase_of_find_none hf]; simp [hys], fun _ => find_cons_self ..⟩

theorem put_zero (c : RawLru κ ν) (k : κ) (v : ν) (h : c.Inv) (h0 : c.cap = 0) :
    c.items = [] ∧ c.put k v = .ok (c, .evicted k v, {}) := by
  have hn : c.items = [] := List.eq_nil_of_length_eq_zero (by have := h.bound; omega)
  exact ⟨hn, put_cap_zero c k v (by rw [hn]; rfl) h0⟩

theorem put_drops {c c' : RawLru κ ν} {k : κ} {v : ν} {r : PutResult κ ν} {e : Eff κ ν}
    (hp : c.put k v = .ok (c', r, e)) : e.drops = r.keyBack k := by
  rcases put_spec c k v with ⟨_, _, hq⟩ | ⟨_, _, hq⟩ | ⟨_, _, _, hq⟩ | ⟨_, _, _, _, _, hq⟩ <;>
    (rw [hq] at hp; cases hp; rfl)

theorem put_total_inv (c : RawLru κ ν) (k : κ) (v : ν) (h : c.Inv) :
    ∃ c' r e, c.put k v = .ok (c', r, e) ∧ c'.Inv ∧ c'.cap = c.cap ∧ c'.hasCb = c.hasCb := by
  have hb := h.bound
  rcases put_spec c k v with ⟨old, hf, hp⟩ | ⟨hf, _, hp⟩ | ⟨hf, _, hne, hp⟩ | ⟨lru, hf, h0, hfull, hl, hp⟩ <;>
    refine ⟨_, _, _, hp, ?_, rfl, rfl⟩ <;> obtain ⟨ev, -, hfl, -⟩ := put_flow hp
  · exact h.flow hfl (.inr ⟨v, rfl⟩) (by simp only [use, List.length_cons, length_erase_of_find hf]; exact hb)
  · exact h
  · exact h.flow hfl (.inr ⟨v, rfl⟩) (by simp only [List.length_cons]; omega)
  · exact h.flow hfl (.inr ⟨v, rfl⟩) (by simp only [List.length_cons, List.length_dropLast]; omega)

theorem get_eq_getMut (c : RawLru κ ν) (k : κ) : c.get k = c.getMut k none := rfl

theorem getLru_eq_getLruMut (c : RawLru κ ν) : c.getLru = c.getLruMut none := rfl

theorem getMut_flow (c : RawLru κ ν) (k : κ) (w : Option ν) :
    ∃ l, (c.getMut k w).1 = { c with items := l } ∧
      Flow k ((find k c.items).map fun old => (k, w.getD old)).toList c.items l [] := by
  unfold RawLru.getMut
  cases hf : find k c.items with
  | none => exact ⟨c.items, rfl, by simpa [hf] using Flow.read k c.items⟩
  | some old => exact ⟨_, rfl, by simp [Flow, use]⟩

theorem peekMut_fst (c : RawLru κ ν) (k : κ) (w : Option ν) :
    (c.peekMut k w).1 = { c with items := writeAt k w c.items } := by
  unfold RawLru.peekMut
  cases hf : find k c.items with
  | none => cases w <;> simp only [writeAt, setVal_of_find_none _ hf]
  | some old => cases w <;> rfl

theorem peekMut_flow (c : RawLru κ ν) (k : κ) (w : Option ν) :
    ∃ l, (c.peekMut k w).1 = { c with items := l } ∧
      Flow k ((find k c.items).map fun old => (k, w.getD old)).toList c.items l [] :=
  ⟨_, peekMut_fst c k w, Flow.of_writeAt k w c.items⟩

theorem remove_fst (c : RawLru κ ν) (k : κ) : (c.remove k).1 = { c with items := erase k c.items } := by
  unfold RawLru.remove
  cases hf : find k c.items with
  | some v => rfl
  | none => simp only [erase_of_find_none hf]

theorem removeLru_some (c : RawLru κ ν) (e : κ × ν) (hl : c.items.getLast? = some e) :
    c.removeLru = ({ c with items := c.items.dropLast }, some e, { cbs := c.cbOf e }) := by
  simp [RawLru.removeLru, RawLru.removeLruIn, hl]

theorem removeLru_none (c : RawLru κ ν) (hl : c.items = []) : c.removeLru = (c, none, {}) := by
  simp [RawLru.removeLru, RawLru.removeLruIn, hl]

theorem removeLru_fst (c : RawLru κ ν) : c.removeLru.1 = { c with items := c.items.dropLast } := by
  obtain ⟨cap, items, cb⟩ := c
  cases hl : items.getLast? with
  | some e => simp only [RawLru.removeLru, RawLru.removeLruIn, hl]
  | none => cases List.getLast?_eq_none_iff.1 hl; rfl

/-! The positional operations are the keyed ones at the key of the entry they address (nothing happens on an empty
    cache): `*_lru` through `find_last` / `erase_last` / `setVal_last`, `*_mru` by computation. -/

theorem getLruMut_eq (c : RawLru κ ν) (nd : (keys c.items).Nodup) (w : Option ν) :
    (c.getLruMut w).1 = match c.items.getLast? with | some e => (c.getMut e.1 w).1 | none => c := by
  unfold RawLru.getLruMut
  cases hl : c.items.getLast? with
  | none => rfl
  | some e => simp only [RawLru.getMut, find_last hl nd]

theorem peekLruMut_eq (c : RawLru κ ν) (nd : (keys c.items).Nodup) (w : Option ν) :
    (c.peekLruMut w).1 = match c.items.getLast? with | some e => (c.peekMut e.1 w).1 | none => c := by
  unfold RawLru.peekLruMut
  cases hl : c.items.getLast? with
  | none => rfl
  | some e => cases w <;> simp only [RawLru.peekMut, find_last hl nd, setVal_last _ hl nd]

theorem removeLru_eq (c : RawLru κ ν) (nd : (keys c.items).Nodup) :
    c.removeLru.1 = match c.items.getLast? with | some e => (c.remove e.1).1 | none => c := by
  cases hl : c.items.getLast? with
  | none => rw [removeLru_none c (List.getLast?_eq_none_iff.1 hl)]
  | some e => simp only [removeLru_some c e hl, remove_fst, erase_last hl nd]

theorem getMruMut_eq (c : RawLru κ ν) (w : Option ν) :
    (c.getMruMut w).1 = match c.items.head? with | some e => (c.peekMut e.1 w).1 | none => c := by
  unfold RawLru.getMruMut
  cases hi : c.items with
  | nil => rfl
  | cons e t => cases w <;> simp [RawLru.peekMut, hi, find, setVal]

/-- effects of discarding the entries `gone` (given in leaving order) -/
def goneEff (c : RawLru κ ν) (gone : AL κ ν) : Eff κ ν :=
  { cbs := if c.hasCb then gone else [], drops := gone.flatMap dropEnt }

theorem eff_append_eq (a b : Eff κ ν) : a ++ b = { cbs := a.cbs ++ b.cbs, drops := a.drops ++ b.drops } := rfl

theorem goneEff_snoc (c c' : RawLru κ ν) (gone : AL κ ν) (e : κ × ν) (hcb : c'.hasCb = c.hasCb) :
    goneEff c gone ++ ({ cbs := c'.cbOf e } : Eff κ ν) ++ ({ drops := dropEnt e } : Eff κ ν) = goneEff c (gone ++ [e]) := by
  simp only [eff_append_eq, goneEff, RawLru.cbOf, hcb, List.flatMap_append, List.flatMap_cons, List.flatMap_nil,
    List.append_nil]
  cases c.hasCb <;> simp

theorem goneEff_nil (c : RawLru κ ν) : goneEff c [] = {} := by simp [goneEff]

/-- the loop pops `out` (in leaving order) off the end of `keep ++ out.reverse` and stops at `keep`; by `hc` it has
    something to pop only when `keep` is exactly what the capacity allows -/
theorem resizeLoop_spec (n cap : Nat) (c0 c : RawLru κ ν) (ev : Nat) (keep out gone : AL κ ν)
    (hi : c.items = keep ++ out.reverse) (hk : keep.length ≤ cap) (hc : out = [] ∨ keep.length = cap)
    (hn : out.length < n) (hcb : c.hasCb = c0.hasCb) :
    resizeLoop n cap c ev (goneEff c0 gone) = .ok ({ c with items := keep }, ev + out.length, goneEff c0 (gone ++ out)) := by
  obtain ⟨cp, items, cb⟩ := c
  subst hi
  induction out generalizing n ev gone with
  | nil =>
    obtain ⟨n, rfl⟩ : ∃ m, n = m + 1 := ⟨n - 1, by omega⟩
    simp [resizeLoop, Nat.not_lt.2 hk]
  | cons e out ih =>
    obtain ⟨n, rfl⟩ : ∃ m, n = m + 1 := ⟨n - 1, by omega⟩
    have hfull : keep.length = cap := hc.resolve_left (List.cons_ne_nil _ _)
    have hgt : (keep ++ (e :: out).reverse).length > cap := by simp; omega
    unfold resizeLoop
    simp only [hgt, if_true, removeLru_some ⟨cp, keep ++ (e :: out).reverse, cb⟩ e (by simp)]
    rw [goneEff_snoc c0 ⟨cp, keep ++ (e :: out).reverse, cb⟩ gone e hcb]
    simpa [Nat.add_assoc, Nat.add_comm 1] using ih n (ev + 1) (gone ++ [e]) (.inr hfull) (by simpa using hn) hcb

/-- `purge` is the loop of `resize` run down to nothing (given the fuel: out of fuel they name different faults) -/
theorem purgeLoop_eq_resizeLoop (n : Nat) (c : RawLru κ ν) (ev : Nat) (acc : Eff κ ν) (hn : c.items.length < n) :
    purgeLoop n c acc = (resizeLoop n 0 c ev acc).map fun r => (r.1, r.2.2) := by
  induction n generalizing c ev acc with
  | zero => omega
  | succ n ih =>
    unfold purgeLoop resizeLoop
    cases hl : c.items.getLast? with
    | none =>
      have hi := List.getLast?_eq_none_iff.1 hl
      simp [removeLru_none c hi, hi, Except.map]
    | some e =>
      have : c.items.length > 0 := List.length_pos_of_mem (List.mem_of_getLast? hl)
      simp only [removeLru_some c e hl, this, if_true]
      exact ih _ (ev + 1) _ (by simp only [List.length_dropLast]; omega)

theorem purge_spec (c : RawLru κ ν) :
    c.purge = .ok ({ c with items := [] }, goneEff c c.items.reverse) := by
  have h := resizeLoop_spec (c.items.length + 1) 0 c c 0 [] c.items.reverse [] (by simp) (Nat.le_refl _) (.inr rfl)
    (by simp) rfl
  rw [goneEff_nil] at h
  simp [RawLru.purge, purgeLoop_eq_resizeLoop _ c 0 _ (Nat.lt_succ_self _), h, Except.map]

theorem resize_spec (c : RawLru κ ν) (n : Nat) (hne : n ≠ c.cap) :
    c.resize n = .ok ({ c with cap := n, items := c.items.take n }, c.items.length - n,
                      goneEff c (c.items.drop n).reverse) := by
  have h := resizeLoop_spec (c.items.length + 1) n c c 0 (c.items.take n) (c.items.drop n).reverse []
    (by rw [List.reverse_reverse, List.take_append_drop]) (List.length_take_le n _)
    (by rw [List.reverse_eq_nil_iff, List.drop_eq_nil_iff, List.length_take]; omega)
    (by rw [List.length_reverse, List.length_drop]; omega) rfl
  rw [goneEff_nil] at h
  simp [RawLru.resize, hne, h]

theorem resize_same (c : RawLru κ ν) : c.resize c.cap = .ok (c, 0, {}) := by
  simp [RawLru.resize]

theorem Inv.take {c : RawLru κ ν} (h : c.Inv) (n : Nat) : ({ c with cap := n, items := c.items.take n } : RawLru κ ν).Inv :=
  ⟨by simp only [keys, List.map_take]; exact List.Sublist.nodup (List.take_sublist _ _) h.nd,
   by simp only [List.length_take]; omega⟩

/-- on a well-formed cache the `n = cap` short-cut of `resize` agrees with the closed form -/
theorem resize_fst (c : RawLru κ ν) (n : Nat) (h : c.Inv) :
    ∃ ev e, c.resize n = .ok ({ c with cap := n, items := c.items.take n }, ev, e) := by
  by_cases hne : n = c.cap
  · subst hne
    exact ⟨_, _, by rw [resize_same, List.take_of_length_le h.bound]⟩
  · exact ⟨_, _, resize_spec c n hne⟩

theorem refill_inv (l : AL κ ν) (acc : RawLru κ ν) (eff : Eff κ ν) (h : acc.Inv) :
    ∃ c e, RawLru.refill l acc eff = .ok (c, e) ∧ c.Inv := by
  induction l generalizing acc eff with
  | nil => exact ⟨acc, eff, rfl, h⟩
  | cons e t ih =>
    obtain ⟨c', r, e', hp, hi', _⟩ := put_total_inv acc e.1 e.2 h
    simp only [RawLru.refill, hp]
    exact ih c' _ hi'

/-- `hnd` speaks of the list that results: each `put` then finds its key absent -/
theorem refill_fresh (r : AL κ ν) (acc : RawLru κ ν) (eff : Eff κ ν)
    (hnd : (keys (r.reverse ++ acc.items)).Nodup) (hb : r.length + acc.items.length ≤ acc.cap) :
    ∃ eff', RawLru.refill r acc eff = .ok ({ acc with items := r.reverse ++ acc.items }, eff') := by
  induction r generalizing acc eff with
  | nil => exact ⟨eff, by simp [RawLru.refill]⟩
  | cons e t ih =>
    rw [List.reverse_cons, List.append_assoc] at hnd ⊢
    have hk : e.1 ∉ keys acc.items := (List.nodup_cons.1 (nodup_keys_right hnd)).1
    simp only [RawLru.refill, put_absent_room _ e.1 e.2 ((find_none_iff ..).2 hk) (by simp at hb; omega)]
    exact ih { acc with items := e :: acc.items } _ hnd (by simp at hb ⊢; omega)

theorem clone_eq (c : RawLru κ ν) (h : c.Inv) : c.cloneImpl = .ok c := by
  unfold RawLru.cloneImpl
  obtain ⟨eff', hr⟩ := refill_fresh c.items.reverse { c with items := [] } {} (by simpa using h.nd) (by simpa using h.bound)
  rw [hr]; simp

theorem putNonnull_room (c : RawLru κ ν) (e : κ × ν) (h : c.items.length < c.cap) :
    c.putNonnull e = .ok (.put, { c with items := e :: c.items }) := by
  simp [RawLru.putNonnull]; omega
theorem putNonnull_full (c : RawLru κ ν) (e old : κ × ν) (h : c.cap ≤ c.items.length)
    (hl : c.items.getLast? = some old) :
    c.putNonnull e = .ok (.evicted old.1 old.2, { c with items := e :: c.items.dropLast }) := by
  simp [RawLru.putNonnull, h, hl]
theorem putOrEvict_room (c : RawLru κ ν) (e : κ × ν) (h : c.items.length < c.cap) :
    c.putOrEvict e = .ok (none, { c with items := e :: c.items }) := by
  simp [RawLru.putOrEvict]; omega
theorem putOrEvict_full (c : RawLru κ ν) (e old : κ × ν) (h : c.cap ≤ c.items.length)
    (hl : c.items.getLast? = some old) :
    c.putOrEvict e = .ok (some old, { c with items := e :: c.items.dropLast }) := by
  simp [RawLru.putOrEvict, h, hl]
theorem removeEnt_some (c : RawLru κ ν) (k : κ) (v : ν) (h : find k c.items = some v) :
    c.removeEnt k = some ((k, v), { c with items := erase k c.items }) := by
  simp [RawLru.removeEnt, h]
theorem removeEnt_none (c : RawLru κ ν) (k : κ) (h : find k c.items = none) : c.removeEnt k = none := by
  simp [RawLru.removeEnt, h]
theorem removeLruIn_some (c : RawLru κ ν) (e : κ × ν) (h : c.items.getLast? = some e) :
    c.removeLruIn = some (e, { c with items := c.items.dropLast }) := by
  simp [RawLru.removeLruIn, h]
theorem removeLruIn_none (c : RawLru κ ν) (h : c.items = []) : c.removeLruIn = none := by
  simp [RawLru.removeLruIn, h]

/-! With a positive capacity the three ways an entry enters a plain LRU are `push` (`put` after unlinking the key) -/

theorem putOrEvict_eq (c : RawLru κ ν) (e : κ × ν) (hc : 0 < c.cap) :
    c.putOrEvict e = .ok ((push c.cap e c.items).2, { c with items := (push c.cap e c.items).1 }) := by
  unfold RawLru.putOrEvict push
  split
  · obtain ⟨g, hl⟩ := getLast?_some_of_pos c.items (by omega)
    simp only [hl]
  · rfl

theorem putNonnull_eq (c : RawLru κ ν) (e : κ × ν) (hc : 0 < c.cap) :
    c.putNonnull e = .ok (.of none (push c.cap e c.items).2, { c with items := (push c.cap e c.items).1 }) := by
  unfold RawLru.putNonnull push
  split
  · obtain ⟨g, hl⟩ := getLast?_some_of_pos c.items (by omega)
    simp only [hl]; rfl
  · rfl

/-- on a cache within its positive bound, `put` unlinks the key and pushes the new entry -/
theorem put_eq (c : RawLru κ ν) (k : κ) (v : ν) (hc : 0 < c.cap) (hb : c.items.length ≤ c.cap) :
    ∃ e, c.put k v = .ok ({ c with items := (push c.cap (k, v) (erase k c.items)).1 },
        .of (find k c.items) (push c.cap (k, v) (erase k c.items)).2, e) ∧
      e.drops = (PutResult.of (find k c.items) none : PutResult κ ν).keyBack k := by
  cases hk : find k c.items with
  | some old =>
    rw [put_present c k v old hk, push_room (by have := length_erase_of_find hk; omega)]
    exact ⟨_, rfl, rfl⟩
  | none =>
    rw [erase_of_find_none hk]
    unfold push
    by_cases hfull : c.items.length = c.cap
    · obtain ⟨lru, hl⟩ := getLast?_some_of_pos c.items (by omega)
      rw [put_absent_full c k v lru hk hfull (by omega) hl]
      simp only [ge_iff_le, hfull, Nat.le_refl, if_true, hl]
      exact ⟨_, rfl, rfl⟩
    · rw [put_absent_room c k v hk (by omega)]
      simp only [show ¬ c.items.length ≥ c.cap by omega, if_false]
      exact ⟨_, rfl, rfl⟩

/-! C15 support: `Departures`, the claim that a callback log is *exactly* the set of entries that left the cache — each
   once, with its current value. Every operation that makes entries leave splits the list into what stays and what is
   logged; with distinct keys that is all the claim says. -/

def Departures (items items' cbs : AL κ ν) : Prop :=
  (keys cbs).Nodup ∧ ∀ e, e ∈ cbs ↔ e ∈ items ∧ e.1 ∉ keys items'

theorem Departures.of_perm {A A' G : AL κ ν} (nd : (keys A).Nodup) (h : A.Perm (A' ++ G)) : Departures A A' G := by
  have nd' := (h.map Prod.fst).nodup_iff.1 nd
  rw [← keys, keys_append, nodup_append_iff] at nd'
  exact ⟨nd'.2.1, fun e =>
    ⟨fun he => ⟨h.mem_iff.2 (List.mem_append_right _ he), fun hc => nd'.2.2 _ hc (mem_keys_of_mem he)⟩,
     fun ⟨he, hn⟩ => (List.mem_append.1 (h.mem_iff.1 he)).resolve_left fun ha => hn (mem_keys_of_mem ha)⟩⟩

/-- who left depends on the list afterwards only through which of the old keys it still holds (`put`: a new key, or
    a new value under an old one) -/
theorem Departures.congr {A A' A'' G : AL κ ν} (h : Departures A A' G)
    (hk : ∀ e ∈ A, e.1 ∈ keys A'' ↔ e.1 ∈ keys A') : Departures A A'' G :=
  ⟨h.1, fun e => (h.2 e).trans (and_congr_right fun he => not_congr (hk e he).symm)⟩

end RawLru
end M
