/- `Arc`: the invariant, and every operation computes the policy `ArcSpec` on the four lists and `p` and leaves the
   configuration (the size, the four capacities) alone. A state is written `a.set s`: the configuration of `a` with the
   lists and the target of `s`; every `a` is of that form. Every history is then the fold of the policy (`run_spec`).
   Last come what the cache owes to coherence (C02) and the objects it holds (C04). -/
import Caches.Lemmas.Conserve
import Caches.Lemmas.Coherence
import Caches.Lemmas.RawLru
import Caches.Lemmas.ArcFlow
set_option linter.unusedSectionVars false
namespace M
open List
variable {κ ν : Type} [DecidableEq κ]

theorem nodup4_iff (A B C D : AL κ ν) :
    (keys ((A ++ B) ++ (C ++ D))).Nodup ↔
      (keys A).Nodup ∧ (keys B).Nodup ∧ (keys C).Nodup ∧ (keys D).Nodup ∧
      (∀ x, x ∈ keys A → x ∉ keys B) ∧ (∀ x, x ∈ keys A → x ∉ keys C) ∧ (∀ x, x ∈ keys A → x ∉ keys D) ∧
      (∀ x, x ∈ keys B → x ∉ keys C) ∧ (∀ x, x ∈ keys B → x ∉ keys D) ∧ (∀ x, x ∈ keys C → x ∉ keys D) := by
  simp only [keys_append, nodup_append_iff, mem_append]
  grind

namespace Arc

structure Inv (a : Arc κ ν) : Prop where
  nd1 : (keys a.recent.items).Nodup
  nd2 : (keys a.frequent.items).Nodup
  ndb1 : (keys a.recentEvict.items).Nodup
  ndb2 : (keys a.frequentEvict.items).Nodup
  d12 : ∀ x, x ∈ keys a.recent.items → x ∉ keys a.frequent.items
  d1b1 : ∀ x, x ∈ keys a.recent.items → x ∉ keys a.recentEvict.items
  d1b2 : ∀ x, x ∈ keys a.recent.items → x ∉ keys a.frequentEvict.items
  d2b1 : ∀ x, x ∈ keys a.frequent.items → x ∉ keys a.recentEvict.items
  d2b2 : ∀ x, x ∈ keys a.frequent.items → x ∉ keys a.frequentEvict.items
  db : ∀ x, x ∈ keys a.recentEvict.items → x ∉ keys a.frequentEvict.items
  bound : a.recent.items.length + a.frequent.items.length ≤ a.size
  b1bound : a.recentEvict.items.length ≤ a.size
  b2bound : a.frequentEvict.items.length ≤ a.size
  c1 : a.recent.cap = a.size
  c2 : a.frequent.cap = a.size
  cb1 : a.recentEvict.cap = a.size
  cb2 : a.frequentEvict.cap = a.size
  ple : a.p ≤ a.size
  spos : 0 < a.size

abbrev set (a : Arc κ ν) (s : ArcSpec.St κ ν) : Arc κ ν :=
  { a with p := s.p, recent := { a.recent with items := s.t1 }, frequent := { a.frequent with items := s.t2 },
           recentEvict := { a.recentEvict with items := s.b1 }, frequentEvict := { a.frequentEvict with items := s.b2 } }

def lists (a : Arc κ ν) : ArcSpec.St κ ν :=
  ⟨a.recent.items, a.frequent.items, a.recentEvict.items, a.frequentEvict.items, a.p⟩

variable {a : Arc κ ν} {s s' : ArcSpec.St κ ν} {k : κ}

theorem inv_iff (a : Arc κ ν) (s : ArcSpec.St κ ν) : (a.set s).Inv ↔ ArcSpec.WF s a.size ∧
    a.recent.cap = a.size ∧ a.frequent.cap = a.size ∧ a.recentEvict.cap = a.size ∧ a.frequentEvict.cap = a.size := by
  constructor
  · rintro ⟨nd1, nd2, ndb1, ndb2, d12, d1b1, d1b2, d2b1, d2b2, db, hb, hb1, hb2, c1, c2, cb1, cb2, ple, spos⟩
    exact ⟨⟨(nodup4_iff ..).2 ⟨nd1, nd2, ndb1, ndb2, d12, d1b1, d1b2, d2b1, d2b2, db⟩, hb, hb1, hb2, ple, spos⟩,
      c1, c2, cb1, cb2⟩
  · rintro ⟨⟨nd, hb, hb1, hb2, ple, spos⟩, c1, c2, cb1, cb2⟩
    obtain ⟨nd1, nd2, ndb1, ndb2, d12, d1b1, d1b2, d2b1, d2b2, db⟩ := (nodup4_iff ..).1 nd
    exact ⟨nd1, nd2, ndb1, ndb2, d12, d1b1, d1b2, d2b1, d2b2, db, hb, hb1, hb2, c1, c2, cb1, cb2, ple, spos⟩

theorem new_ok {size : Nat} {a : Arc κ ν} (h : Arc.new size = some a) :
    a = { size := size, p := 0, recent := { cap := size, items := [] }, recentEvict := { cap := size, items := [] },
          frequent := { cap := size, items := [] }, frequentEvict := { cap := size, items := [] } } ∧ 0 < size := by
  unfold Arc.new at h
  split at h
  · cases h
  · cases h; exact ⟨rfl, by omega⟩

theorem inv_new {size : Nat} {a : Arc κ ν} (h : Arc.new size = some a) : a.Inv := by
  obtain ⟨rfl, hs⟩ := new_ok h
  constructor <;> simp <;> omega

theorem Inv.wf (h : (a.set s).Inv) : ArcSpec.WF s a.size := ((inv_iff a s).1 h).1

theorem putNonnull_remember {c : RawLru κ ν} {size : Nat} (e : κ × ν) (hc : c.cap = size) (hs : 0 < size) :
    ∃ res, c.putNonnull e = .ok (res, { c with items := ArcSpec.remember c.items size e }) :=
  ⟨_, by rw [RawLru.putNonnull_eq c e (hc ▸ hs), ArcSpec.remember_push, hc]⟩

theorem fromRecent_spec (b : Bool) : (a.set s).replaceFromRecent b = ArcSpec.fromRecent s b := rfl

theorem replace_spec (a : Arc κ ν) (s : ArcSpec.St κ ν) (b : Bool) (hs : 0 < a.size) (c1 : a.recentEvict.cap = a.size)
    (c2 : a.frequentEvict.cap = a.size) :
    ∃ d, (a.set s).replace b = .ok (a.set (ArcSpec.replace s a.size b), d) := by
  unfold Arc.replace ArcSpec.replace
  rw [fromRecent_spec]
  split
  · cases hl : s.t1.getLast? with
    | none => exact ⟨_, by simp only [RawLru.removeLruIn_none (a.set s).recent (getLast?_eq_none_iff.1 hl)]; rfl⟩
    | some e =>
      obtain ⟨res, hr⟩ := putNonnull_remember (c := (a.set s).recentEvict) e c1 hs
      exact ⟨_, by simp only [RawLru.removeLruIn_some (a.set s).recent e hl, hr]; rfl⟩
  · cases hl : s.t2.getLast? with
    | none => exact ⟨_, by simp only [RawLru.removeLruIn_none (a.set s).frequent (getLast?_eq_none_iff.1 hl)]; rfl⟩
    | some e =>
      obtain ⟨res, hr⟩ := putNonnull_remember (c := (a.set s).frequentEvict) e c2 hs
      exact ⟨_, by simp only [RawLru.removeLruIn_some (a.set s).frequent e hl, hr]; rfl⟩

theorem makeRoom_spec {b : Bool} {s1 : ArcSpec.St κ ν} (hs : 0 < a.size) (c1 : a.recentEvict.cap = a.size)
    (c2 : a.frequentEvict.cap = a.size) (he : ArcSpec.makeRoom s a.size b = s1) :
    ∃ d, (if s.t1.length + s.t2.length ≥ a.size then (a.set s).replace b else .ok (a.set s, [])) = .ok (a.set s1, d) := by
  subst he
  unfold ArcSpec.makeRoom
  split
  · exact replace_spec a s b hs c1 c2
  · exact ⟨_, rfl⟩

theorem trimRecentGhost_spec (n : Nat) : ((a.set s).trimRecentGhost n).1 =
    a.set { s with b1 := if n > a.size - s.p then s.b1.dropLast else s.b1 } := by
  unfold Arc.trimRecentGhost RawLru.removeLru RawLru.removeLruIn
  split
  · cases hl : s.b1.getLast? with
    | none =>
      have : s.b1.dropLast = s.b1 := by rw [getLast?_eq_none_iff.1 hl]; rfl
      simp only [this]
    | some e => rfl
  · rfl

theorem trimFrequentGhost_spec (n : Nat) : ((a.set s).trimFrequentGhost n).1 =
    a.set { s with b2 := if n > s.p then s.b2.dropLast else s.b2 } := by
  unfold Arc.trimFrequentGhost RawLru.removeLru RawLru.removeLruIn
  split
  · cases hl : s.b2.getLast? with
    | none =>
      have : s.b2.dropLast = s.b2 := by rw [getLast?_eq_none_iff.1 hl]; rfl
      simp only [this]
    | some e => rfl
  · rfl

/-- the adaptation amounts of the code are `max 1 (|other ghosts| / |hit ghosts|)` -/
theorem delta_eq (x y : Nat) (hy : 0 < y) : (if x > y then x / y else 1) = max 1 (x / y) := by
  split
  · have : 1 ≤ x / y := (Nat.le_div_iff_mul_le hy).2 (by omega)
    omega
  · have : x / y ≤ y / y := Nat.div_le_div_right (by omega)
    rw [Nat.div_self hy] at this
    omega

theorem raise_eq (p size x y : Nat) (hy : 0 < y) :
    (if p + (if x > y then x / y else 1) ≥ size then size else p + (if x > y then x / y else 1)) =
      min size (p + max 1 (x / y)) := by
  rw [delta_eq x y hy]; split <;> omega

theorem lower_eq (p x y : Nat) (hy : 0 < y) :
    (if (if x > y then x / y else 1) ≥ p then 0 else p - (if x > y then x / y else 1)) = p - min p (max 1 (x / y)) := by
  rw [delta_eq x y hy]; split <;> omega

theorem put_spec (a : Arc κ ν) (s : ArcSpec.St κ ν) (h : (a.set s).Inv) (k : κ) (v : ν) :
    ∃ d, (a.set s).put k v = .ok ((ArcSpec.put s a.size k v).2, a.set (ArcSpec.put s a.size k v).1, d) := by
  obtain ⟨⟨_, hb, hb1, hb2, hp, hs⟩, c1, c2, cb1, cb2⟩ := (inv_iff a s).1 h
  unfold ArcSpec.put Arc.put
  cases f1 : find k s.t1 with
  | some old =>
    have := length_erase_of_find f1
    simp only [RawLru.removeEnt_some (a.set s).recent k old f1,
      RawLru.putNonnull_room (a.set s).frequent _ (by simp only; omega)]
    exact ⟨_, rfl⟩
  | none =>
    simp only [RawLru.removeEnt_none (a.set s).recent k f1]
    cases f2 : find k s.t2 with
    | some old => exact ⟨_, rfl⟩
    | none =>
      cases f3 : find k s.b1 with
      | some old =>
        have := length_erase_of_find f3
        generalize hm : ArcSpec.makeRoom _ a.size false = s1
        obtain ⟨d, hd⟩ := makeRoom_spec hs cb1 cb2 hm
        -- all that is needed of the flow of `makeRoom` here is `hlt`: there is room afterwards, so `put_nonnull` evicts nothing
        obtain ⟨_, _, _, _, _, _, hlt, _, _⟩ := ArcSpec.makeRoom_flow hm hs hb (by simp only; omega) hb2
        simp only [RawLru.removeEnt_some (a.set s).recentEvict k old f3,
          show ¬ (s.b2.length > s.b1.length ∧ s.b1.length = 0) by omega, if_false,
          raise_eq _ _ _ _ (show 0 < s.b1.length by omega), hd,
          RawLru.putNonnull_room (a.set s1).frequent _ (by simp only; omega)]
        exact ⟨_, rfl⟩
      | none =>
        simp only [RawLru.removeEnt_none (a.set s).recentEvict k f3]
        cases f4 : find k s.b2 with
        | some old =>
          have := length_erase_of_find f4
          generalize hm : ArcSpec.makeRoom _ a.size true = s1
          obtain ⟨d, hd⟩ := makeRoom_spec hs cb1 cb2 hm
          obtain ⟨_, _, _, _, _, _, hlt, _, _⟩ := ArcSpec.makeRoom_flow hm hs hb hb1 (by simp only; omega)
          simp only [RawLru.removeEnt_some (a.set s).frequentEvict k old f4,
            show ¬ (s.b1.length > s.b2.length ∧ s.b2.length = 0) by omega, if_false,
            lower_eq _ _ _ (show 0 < s.b2.length by omega), hd,
            RawLru.putNonnull_room (a.set s1).frequent _ (by simp only; omega)]
          exact ⟨_, rfl⟩
        | none =>
          simp only [ArcSpec.admitNew_eq]
          generalize hm : ArcSpec.makeRoom s a.size false = s1
          obtain ⟨d, hd⟩ := makeRoom_spec hs cb1 cb2 hm
          obtain ⟨_, _, _, _, _, hp1, hlt, _, _⟩ := ArcSpec.makeRoom_flow hm hs hb hb1 hb2
          have hk : find k s1.t1 = none := (find_none_iff ..).2 fun hc =>
            (find_none_iff ..).1 f1 (((hm ▸ ArcSpec.makeRoom_t1 s a.size false).map _).subset hc)
          simp only [RawLru.removeEnt_none (a.set s).frequentEvict k f4, hd,
            show ¬ a.size < s1.p by omega, if_false, trimRecentGhost_spec, trimFrequentGhost_spec,
            RawLru.put_absent_room (a.set s1).recent k v hk (by simp only; omega)]
          exact ⟨_, rfl⟩

theorem getMut_spec (a : Arc κ ν) (s : ArcSpec.St κ ν) (h : (a.set s).Inv) (k : κ) (w : Option ν) :
    ∃ d, (a.set s).getMut k w = .ok ((ArcSpec.get s k w).2, a.set (ArcSpec.get s k w).1, d) := by
  obtain ⟨⟨_, hb, _⟩, _, c2, _⟩ := (inv_iff a s).1 h
  unfold ArcSpec.get Arc.getMut Arc.moveToFrequent RawLru.getMut
  cases f1 : find k s.t1 with
  | some old =>
    have := length_erase_of_find f1
    simp only [RawLru.removeEnt_some (a.set s).recent k old f1,
      RawLru.putNonnull_room (a.set s).frequent _ (by simp only; omega)]
    exact ⟨_, rfl⟩
  | none => cases f2 : find k s.t2 <;> exact ⟨_, rfl⟩

theorem remove_spec (a : Arc κ ν) (s : ArcSpec.St κ ν) (k : κ) :
    ((a.set s).remove k).1 = a.set (ArcSpec.remove s k).1 ∧ ((a.set s).remove k).2.1 = (ArcSpec.remove s k).2 := by
  unfold Arc.remove RawLru.remove ArcSpec.remove
  -- one leaf per list that may hold the key, not one per combination
  cases find k s.t1 with
  | some v => exact ⟨rfl, rfl⟩
  | none =>
  cases find k s.t2 with
  | some v => exact ⟨rfl, rfl⟩
  | none =>
  cases find k s.b1 with
  | some v => exact ⟨rfl, rfl⟩
  | none => cases find k s.b2 <;> exact ⟨rfl, rfl⟩

theorem peekMut_spec (a : Arc κ ν) (s : ArcSpec.St κ ν) (k : κ) (w : Option ν) :
    ((a.set s).peekMut k w).1 = a.set (ArcSpec.peekMut s k w) := by
  unfold Arc.peekMut RawLru.peekMut ArcSpec.peekMut
  cases find k s.t1 <;> cases find k s.t2 <;> cases w <;> rfl

theorem purge_spec (a : Arc κ ν) (s : ArcSpec.St κ ν) : ∃ d, (a.set s).purge = .ok (a.set (ArcSpec.purge s), d) := by
  simp only [Arc.purge, RawLru.purge_spec]; exact ⟨_, rfl⟩

theorem step_spec (a : Arc κ ν) (s : ArcSpec.St κ ν) (h : (a.set s).Inv) (o : CacheOp κ ν) :
    (a.set s).step o = .ok (a.set (ArcSpec.step a.size s o)) := by
  cases o with
  | put k v => obtain ⟨d, hd⟩ := put_spec a s h k v; simp only [Arc.step, hd]; rfl
  | getMut k w => obtain ⟨d, hd⟩ := getMut_spec a s h k w; simp only [Arc.step, hd]; rfl
  | peekMut k w => simp only [Arc.step, peekMut_spec]; rfl
  | remove k => simp only [Arc.step, (remove_spec a s k).1]; rfl
  | purge => obtain ⟨d, hd⟩ := purge_spec a s; simp only [Arc.step, hd]; rfl
  | read => rfl

theorem Inv.step (h : (a.set s).Inv) (o : CacheOp κ ν) : (a.set (ArcSpec.step a.size s o)).Inv :=
  (inv_iff ..).2 ⟨ArcSpec.step_wf h.wf o, ((inv_iff a s).1 h).2⟩

theorem step_inv (a : Arc κ ν) (o : CacheOp κ ν) (h : a.Inv) : ∃ a', a.step o = .ok a' ∧ a'.Inv :=
  ⟨_, step_spec a a.lists h o, Inv.step (s := a.lists) h o⟩

theorem run_spec (a : Arc κ ν) (s : ArcSpec.St κ ν) (h : (a.set s).Inv) (ops : List (CacheOp κ ν)) :
    runOps Arc.step (a.set s) ops = .ok (a.set (ops.foldl (ArcSpec.step a.size) s)) ∧
      (a.set (ops.foldl (ArcSpec.step a.size) s)).Inv := by
  induction ops generalizing s with
  | nil => exact ⟨rfl, h⟩
  | cons o rest ih =>
    have := ih _ (h.step o)
    exact ⟨by simp only [runOps, step_spec a s h o, this.1, foldl_cons], this.2⟩

/-! ### what each operation owes to coherence (C02): resident entries are T1 ++ T2; the ghost lists are not resident -/
def ents (a : Arc κ ν) : AL κ ν := a.recent.items ++ a.frequent.items

def decl (a : Arc κ ν) : CacheOp κ ν → Decl κ ν
  | .put k v => keyDecl k (some (k, v))
  | .getMut k w => RawLru.writeDecl k ((find k a.recent.items).isSome || (find k a.frequent.items).isSome) w
  | .peekMut k w => RawLru.writeDecl k ((find k a.recent.items).isSome || (find k a.frequent.items).isSome) w
  | .remove k => keyDecl k none
  | .purge => { wr := none, kills := fun _ => true }
  | .read => Decl.none

/-- without the invariant: `peek` looks in T1 first, which is the order of `ents` -/
theorem peek_eq (a : Arc κ ν) (k : κ) : a.peek k = find k a.ents := by
  unfold Arc.peek RawLru.peek ents; rw [find_append]
  cases find k a.recent.items <;> rfl

theorem step_owes (a : Arc κ ν) (o : CacheOp κ ν) (h : a.Inv) :
    ∃ a', a.step o = .ok a' ∧ a'.Inv ∧ Owes (a.decl o) a.ents a'.ents := by
  have hw := Inv.wf (s := a.lists) h
  refine ⟨_, step_spec a a.lists h o, Inv.step (s := a.lists) h o, ?_⟩
  have nd : (keys a.ents).Nodup := hw.ndr
  have hres : ∀ k, ((find k a.recent.items).isSome || (find k a.frequent.items).isSome) = (find k a.ents).isSome :=
    fun k => by rw [ents, find_append, Option.isSome_or]
  cases o with
  | put k v => obtain ⟨_, vic, gone, hf⟩ := ArcSpec.put_flow hw k v; exact hf.res.owes nd (by simp)
  | getMut k w => obtain ⟨_, hf, _⟩ := ArcSpec.get_flow a.lists k w; simp only [decl, hres]; exact Flow.owes_write nd hf
  | peekMut k w => simp only [decl, hres, ArcSpec.step, ArcSpec.peekMut_eq (s := a.lists) nd]; exact owes_writeAt nd k w
  | remove k => exact (ArcSpec.remove_flow (a.lists) k).1.owes nd (by simp)
  | purge => exact owes_all _
  | read => exact owes_none _ _ fun e he => he

/-! ### the objects the four lists hold (C04), and the stages of `put` and `get` object by object: every primitive's leftover is
    threaded into the drop list, so the equations compose without the invariant -/
section held
variable [DecidableEq ν]

def heldAll (a : Arc κ ν) : List (Obj κ ν) :=
  held a.recent.items ++ (held a.frequent.items ++ (held a.recentEvict.items ++ held a.frequentEvict.items))

variable {a a' : Arc κ ν} {k : κ} {d : List (Obj κ ν)}

theorem replace_count {b : Bool} (h : a.replace b = .ok (a', d)) (o : Obj κ ν) :
    a.heldAll.count o = a'.heldAll.count o + d.count o := by
  revert h
  -- from T1 to B1 or from T2 to B2; an empty list gives up nothing
  fun_cases Arc.replace a b <;> rintro ⟨⟩
  · rfl
  · have c1 := RawLru.removeLruIn_count ‹_› o
    have c2 := RawLru.putNonnull_count ‹_› o
    simp only [heldAll, List.count_append] at c1 c2 ⊢; omega
  · rfl
  · have c1 := RawLru.removeLruIn_count ‹_› o
    have c2 := RawLru.putNonnull_count ‹_› o
    simp only [heldAll, List.count_append] at c1 c2 ⊢; omega

theorem makeRoom_count {b : Bool} {c : Prop} [Decidable c]
    (h : (if c then a.replace b else .ok (a, [])) = .ok (a', d)) (o : Obj κ ν) :
    a.heldAll.count o = a'.heldAll.count o + d.count o := by
  split at h
  · exact replace_count h o
  · cases h; rfl

theorem trimRecent_count {n : Nat} (h : a.trimRecentGhost n = (a', d)) (o : Obj κ ν) :
    a.heldAll.count o = a'.heldAll.count o + d.count o := by
  revert h
  fun_cases Arc.trimRecentGhost a n <;> rintro ⟨⟩
  · have := RawLru.removeLru_count ‹_› o
    simp only [heldAll, objsE, List.count_append] at this ⊢; omega
  · rfl
  · rfl

theorem trimFrequent_count {n : Nat} (h : a.trimFrequentGhost n = (a', d)) (o : Obj κ ν) :
    a.heldAll.count o = a'.heldAll.count o + d.count o := by
  revert h
  fun_cases Arc.trimFrequentGhost a n <;> rintro ⟨⟩
  · have := RawLru.removeLru_count ‹_› o
    simp only [heldAll, objsE, List.count_append] at this ⊢; omega
  · rfl
  · rfl

theorem moveToFrequent_count {w r : Option ν} (h : a.moveToFrequent k w = .ok (r, a', d)) (o : Obj κ ν) :
    a.heldAll.count o + (wrIn r w : List (Obj κ ν)).count o =
      a'.heldAll.count o + (wrOut r w : List (Obj κ ν)).count o + d.count o := by
  revert h
  fun_cases Arc.moveToFrequent a k w <;> rintro ⟨⟩
  · rfl
  · have c1 := RawLru.removeEnt_count ‹_› o
    have c2 := RawLru.putNonnull_count ‹_› o
    cases w <;> simp only [heldAll, wrIn, wrOut, dropEnt, Option.getD, List.count_append, List.count_cons,
      List.count_nil] at c1 c2 ⊢ <;> omega

end held
end Arc

end M
