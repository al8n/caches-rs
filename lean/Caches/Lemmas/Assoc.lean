/-
  Association lists (`find`, `erase`, `setVal`, `keys` of Model/Assoc.lean). Three facts carry the rest. `erase k l` is a sublist of `l` (so distinct keys, lengths and key sets only shrink);
  when `k` is found, `(k, old) :: erase k l` and `(k, w) :: erase k l` are permutations of `l` and of `setVal k w l`
  (so membership, lengths and counts are read off a permutation); the last entry is the entry under its own key
  (`erase_last`), so whatever is known about a key holds of the LRU end.
-/
import Caches.Model.Assoc
set_option linter.unusedSectionVars false
namespace M
variable {κ ν : Type} [DecidableEq κ]

omit [DecidableEq κ] in
@[simp] theorem keys_nil : keys ([] : AL κ ν) = [] := rfl
omit [DecidableEq κ] in
@[simp] theorem keys_cons (k : κ) (v : ν) (t : AL κ ν) : keys ((k, v) :: t) = k :: keys t := rfl
omit [DecidableEq κ] in
@[simp] theorem keys_cons' (e : κ × ν) (t : AL κ ν) : keys (e :: t) = e.1 :: keys t := rfl
omit [DecidableEq κ] in
theorem keys_dropLast (l : AL κ ν) : keys l.dropLast = (keys l).dropLast := by
  simp [keys, List.map_dropLast]
omit [DecidableEq κ] in
@[simp] theorem length_keys (l : AL κ ν) : (keys l).length = l.length := by simp [keys]
omit [DecidableEq κ] in
theorem keys_append (a b : AL κ ν) : keys (a ++ b) = keys a ++ keys b := by simp [keys]
theorem mem_keys_of_mem {e : κ × ν} {l : AL κ ν} (h : e ∈ l) : e.1 ∈ keys l :=
  List.mem_map.2 ⟨e, h, rfl⟩

theorem find_cons_ne (e : κ × ν) (t : AL κ ν) (k : κ) (h : e.1 ≠ k) : find k (e :: t) = find k t := by
  obtain ⟨a, b⟩ := e; exact if_neg h
theorem find_cons_self (k : κ) (v : ν) (t : AL κ ν) : find k ((k, v) :: t) = some v := if_pos rfl

theorem find_mem {k : κ} {v : ν} {l : AL κ ν} (h : find k l = some v) : (k, v) ∈ l := by
  fun_induction find k l <;> simp_all
theorem find_none_iff (k : κ) (l : AL κ ν) : find k l = none ↔ k ∉ keys l := by
  fun_induction find k l <;> simp_all [eq_comm]
theorem find_some_mem {k : κ} {v : ν} {l : AL κ ν} (h : find k l = some v) : k ∈ keys l :=
  mem_keys_of_mem (find_mem h)
theorem find_isSome_iff (k : κ) (l : AL κ ν) : (find k l).isSome ↔ k ∈ keys l := by
  rw [Option.isSome_iff_ne_none, Ne, find_none_iff, Decidable.not_not]
theorem find_iff_mem (k : κ) (v : ν) (l : AL κ ν) (nd : (keys l).Nodup) : find k l = some v ↔ (k, v) ∈ l := by
  fun_induction find k l <;> simp_all [eq_comm]
  exact fun h => absurd (mem_keys_of_mem h) nd.1

theorem find_append (k : κ) (A B : AL κ ν) : find k (A ++ B) = (find k A).or (find k B) := by
  induction A with
  | nil => rfl
  | cons a t ih => obtain ⟨a1, a2⟩ := a; by_cases h : a1 = k <;> simp [find, h, ih]

/-- `List.nodup_append` with disjointness in the form the invariants state it -/
theorem nodup_append_iff {α : Type} {l₁ l₂ : List α} :
    (l₁ ++ l₂).Nodup ↔ l₁.Nodup ∧ l₂.Nodup ∧ ∀ x, x ∈ l₁ → x ∉ l₂ :=
  List.nodup_append.trans (and_congr_right fun _ => and_congr_right fun _ =>
    ⟨fun h x hx hb => h x hx x hb rfl, fun h a ha _ hb hab => h a ha (hab ▸ hb)⟩)

omit [DecidableEq κ] in
theorem nodup_keys_left {A B : AL κ ν} (nd : (keys (A ++ B)).Nodup) : (keys A).Nodup :=
  ((List.sublist_append_left ..).map _).nodup nd
omit [DecidableEq κ] in
theorem nodup_keys_right {A B : AL κ ν} (nd : (keys (A ++ B)).Nodup) : (keys B).Nodup :=
  ((List.sublist_append_right ..).map _).nodup nd

theorem find_left_none {k : κ} {v : ν} {A B : AL κ ν} (nd : (keys (A ++ B)).Nodup) (h : find k B = some v) :
    find k A = none := by
  rw [keys_append, nodup_append_iff] at nd
  exact (find_none_iff k A).2 fun hm => nd.2.2 k hm (find_some_mem h)

theorem find_right_none {k : κ} {v : ν} {A B : AL κ ν} (nd : (keys (A ++ B)).Nodup) (h : find k A = some v) :
    find k B = none := by
  rw [keys_append, nodup_append_iff] at nd
  exact (find_none_iff k B).2 (nd.2.2 k (find_some_mem h))

theorem erase_cons_ne (e : κ × ν) (t : AL κ ν) (k : κ) (h : e.1 ≠ k) : erase k (e :: t) = e :: erase k t := by
  obtain ⟨a, b⟩ := e; exact if_neg h
theorem erase_cons_self (k : κ) (v : ν) (t : AL κ ν) : erase k ((k, v) :: t) = t := if_pos rfl

theorem erase_sublist (k : κ) (l : AL κ ν) : (erase k l).Sublist l := by
  fun_induction erase k l
  · exact .refl _
  · exact List.sublist_cons_self ..
  · rename_i ih; exact ih.cons_cons _

theorem perm_erase {k : κ} {old : ν} {l : AL κ ν} (h : find k l = some old) : ((k, old) :: erase k l).Perm l := by
  fun_induction erase k l
  · cases h
  · simp_all [find]
  · rename_i hne ih
    simp only [find, hne, if_false] at h
    exact (List.Perm.swap ..).trans ((ih h).cons _)

theorem erase_of_find_none {k : κ} {l : AL κ ν} (h : find k l = none) : erase k l = l := by
  fun_induction erase k l <;> simp_all [find]
theorem erase_of_not_mem (k : κ) (l : AL κ ν) (h : k ∉ keys l) : erase k l = l :=
  erase_of_find_none ((find_none_iff k l).2 h)

theorem keys_erase_subset (k x : κ) (l : AL κ ν) (h : x ∈ keys (erase k l)) : x ∈ keys l :=
  ((erase_sublist k l).map _).subset h
theorem nodup_erase (k : κ) (l : AL κ ν) (h : (keys l).Nodup) : (keys (erase k l)).Nodup :=
  ((erase_sublist k l).map _).nodup h
theorem length_erase_le (k : κ) (l : AL κ ν) : (erase k l).length ≤ l.length :=
  (erase_sublist k l).length_le
theorem length_erase_of_find {k : κ} {l : AL κ ν} {v : ν} (h : find k l = some v) :
    (erase k l).length + 1 = l.length :=
  (perm_erase h).length_eq

theorem not_mem_keys_erase (k : κ) (l : AL κ ν) (nd : (keys l).Nodup) : k ∉ keys (erase k l) := by
  cases h : find k l with
  | none => rw [erase_of_find_none h]; exact (find_none_iff k l).1 h
  | some v => exact (List.nodup_cons.1 (((perm_erase h).map Prod.fst).nodup_iff.2 nd)).1

theorem mem_erase_of_ne (e : κ × ν) (k : κ) (l : AL κ ν) (h : e ∈ l) (hk : e.1 ≠ k) : e ∈ erase k l := by
  cases hf : find k l with
  | none => rwa [erase_of_find_none hf]
  | some v => exact (List.mem_cons.1 ((perm_erase hf).mem_iff.2 h)).resolve_left fun hc => hk (by rw [hc])

theorem mem_erase_iff (e : κ × ν) (k : κ) (l : AL κ ν) (nd : (keys l).Nodup) :
    e ∈ erase k l ↔ e ∈ l ∧ e.1 ≠ k :=
  ⟨fun h => ⟨(erase_sublist k l).subset h, fun hc => not_mem_keys_erase k l nd <| by
      have := mem_keys_of_mem h; rwa [hc] at this⟩,
   fun h => mem_erase_of_ne e k l h.1 h.2⟩

theorem mem_keys_erase (k x : κ) (l : AL κ ν) (h : (keys l).Nodup) :
    x ∈ keys (erase k l) ↔ x ∈ keys l ∧ x ≠ k := by
  simp [keys, mem_erase_iff _ k l h]

theorem find_erase_ne (k x : κ) (l : AL κ ν) (h : x ≠ k) : find x (erase k l) = find x l := by
  fun_induction erase k l <;> grind [find]
theorem find_erase_self (k : κ) (l : AL κ ν) (h : (keys l).Nodup) : find k (erase k l) = none :=
  (find_none_iff k _).2 (not_mem_keys_erase k l h)

theorem find_append_none {k : κ} {A B : AL κ ν} (h : find k (A ++ B) = none) : find k A = none ∧ find k B = none := by
  rw [find_append] at h; exact Option.or_eq_none_iff.1 h

theorem erase_append_left {k : κ} {v : ν} {A : AL κ ν} (h : find k A = some v) (B : AL κ ν) :
    erase k (A ++ B) = erase k A ++ B := by
  induction A with
  | nil => cases h
  | cons a t ih => obtain ⟨a1, a2⟩ := a; by_cases hk : a1 = k <;> simp_all [find, erase]

theorem erase_append_right {k : κ} {A : AL κ ν} (h : find k A = none) (B : AL κ ν) :
    erase k (A ++ B) = A ++ erase k B := by
  induction A with
  | nil => rfl
  | cons a t ih => obtain ⟨a1, a2⟩ := a; by_cases hk : a1 = k <;> simp_all [find, erase]

theorem perm_setVal {k : κ} {old : ν} {l : AL κ ν} (w : ν) (h : find k l = some old) :
    ((k, w) :: erase k l).Perm (setVal k w l) := by
  fun_induction erase k l
  · cases h
  · simp_all [find, setVal]
  · rename_i hne ih
    simp only [find, hne, if_false] at h
    simpa [setVal, hne] using (List.Perm.swap ..).trans ((ih h).cons _)

theorem keys_setVal (k : κ) (w : ν) (l : AL κ ν) : keys (setVal k w l) = keys l := by
  fun_induction setVal k w l <;> simp_all
theorem length_setVal (k : κ) (w : ν) (l : AL κ ν) : (setVal k w l).length = l.length := by
  rw [← length_keys, keys_setVal, length_keys]
theorem find_setVal_self (k : κ) (w : ν) (l : AL κ ν) (h : k ∈ keys l) : find k (setVal k w l) = some w := by
  fun_induction setVal k w l <;> simp_all [find, eq_comm]
theorem find_setVal_ne (k x : κ) (w : ν) (l : AL κ ν) (h : x ≠ k) : find x (setVal k w l) = find x l := by
  fun_induction setVal k w l <;> grind [find]
theorem mem_setVal_iff (e : κ × ν) (k : κ) (w : ν) (l : AL κ ν) (nd : (keys l).Nodup) (hk : k ∈ keys l) :
    e ∈ setVal k w l ↔ (e ∈ l ∧ e.1 ≠ k) ∨ e = (k, w) := by
  obtain ⟨old, hf⟩ := Option.isSome_iff_exists.1 ((find_isSome_iff k l).2 hk)
  rw [← (perm_setVal w hf).mem_iff, List.mem_cons, mem_erase_iff e k l nd, or_comm]

theorem setVal_append_right {k : κ} {A : AL κ ν} (w : ν) (h : find k A = none) (B : AL κ ν) :
    setVal k w (A ++ B) = A ++ setVal k w B := by
  induction A with
  | nil => rfl
  | cons a t ih => obtain ⟨a1, a2⟩ := a; by_cases hk : a1 = k <;> simp_all [find, setVal]

theorem setVal_of_find_none {k : κ} {l : AL κ ν} (w : ν) (h : find k l = none) : setVal k w l = l := by
  fun_induction setVal k w l <;> simp_all [find]

theorem erase_append {k : κ} {A B : AL κ ν} (nd : (keys (A ++ B)).Nodup) : erase k (A ++ B) = erase k A ++ erase k B := by
  cases hA : find k A with
  | some v => rw [erase_append_left hA, erase_of_find_none (find_right_none nd hA)]
  | none => rw [erase_append_right hA, erase_of_find_none hA]

theorem setVal_append {k : κ} {A B : AL κ ν} (w : ν) (nd : (keys (A ++ B)).Nodup) :
    setVal k w (A ++ B) = setVal k w A ++ setVal k w B := by
  cases hA : find k A with
  | some v =>
    rw [setVal_of_find_none w (find_right_none nd hA)]
    clear nd
    induction A with
    | nil => cases hA
    | cons a t ih => obtain ⟨a1, a2⟩ := a; by_cases hk : a1 = k <;> simp_all [find, setVal]
  | none => rw [setVal_append_right w hA, setVal_of_find_none w hA]

theorem getLast?_some_of_pos {α} (l : List α) (h : 0 < l.length) : ∃ x, l.getLast? = some x :=
  ⟨_, List.getLast?_eq_some_getLast (List.ne_nil_of_length_pos h)⟩

omit [DecidableEq κ] in
theorem keys_getLast? (l : AL κ ν) (e : κ × ν) (h : l.getLast? = some e) :
    (keys l).getLast? = some e.1 := by
  simp [keys, List.getLast?_map, h]

theorem dropLast_append_getLast?_toList {α : Type} (l : List α) : l.dropLast ++ l.getLast?.toList = l := by
  cases h : l.getLast? with
  | none => simp [List.getLast?_eq_none_iff.1 h]
  | some a => obtain ⟨l, rfl⟩ := List.getLast?_eq_some_iff.1 h; simp

theorem snoc_of_getLast? {l : AL κ ν} {e : κ × ν} (hl : l.getLast? = some e) (nd : (keys l).Nodup) :
    l = l.dropLast ++ [e] ∧ find e.1 l.dropLast = none := by
  obtain ⟨ys, rfl⟩ := List.getLast?_eq_some_iff.1 hl
  exact ⟨by simp, by simpa using find_left_none nd (find_cons_self e.1 e.2 [])⟩

theorem find_last {l : AL κ ν} {e : κ × ν} (hl : l.getLast? = some e) (hnd : (keys l).Nodup) :
    find e.1 l = some e.2 := by
  obtain ⟨hs, hn⟩ := snoc_of_getLast? hl hnd
  rw [hs, find_append, hn]; exact find_cons_self ..

theorem erase_last {l : AL κ ν} {e : κ × ν} (hl : l.getLast? = some e) (hnd : (keys l).Nodup) :
    erase e.1 l = l.dropLast := by
  obtain ⟨hs, hn⟩ := snoc_of_getLast? hl hnd
  conv => lhs; rw [hs, erase_append_right hn]
  simp [erase]

theorem setVal_last {l : AL κ ν} {e : κ × ν} (w : ν) (hl : l.getLast? = some e) (hnd : (keys l).Nodup) :
    setVal e.1 w l = l.dropLast ++ [(e.1, w)] := by
  obtain ⟨hs, hn⟩ := snoc_of_getLast? hl hnd
  conv => lhs; rw [hs, setVal_append_right w hn]
  simp [setVal]

end M
