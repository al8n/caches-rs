/- One step of a RawLRU, operation by operation: it runs without a fault, keeps the cache well-formed and the
   callback flag, and pays what it owes to the ghost truth (C02). -/
import Caches.Lemmas.Coherence
import Caches.Lemmas.RawLru
namespace M
variable {κ ν : Type} [DecidableEq κ]
namespace RawLru

def putDecl (c : RawLru κ ν) (k : κ) (v : ν) : Decl κ ν :=
  { wr := if c.cap = 0 then none else some (k, v), kills := fun x => decide (x = k) }

def decl (c : RawLru κ ν) : RawOp κ ν → Decl κ ν
  | .put k v => c.putDecl k v
  | .getMut k w => writeDecl k (find k c.items).isSome w
  | .peekMut k w => writeDecl k (find k c.items).isSome w
  | .remove k => { wr := none, kills := fun x => decide (x = k) }
  | .purge => { wr := none, kills := fun _ => true }
  | .getLruMut w => match c.items.getLast? with | some e => writeDecl e.1 true w | none => Decl.none
  | .peekLruMut w => match c.items.getLast? with | some e => writeDecl e.1 true w | none => Decl.none
  | .getMruMut w => match c.items.head? with | some e => writeDecl e.1 true w | none => Decl.none
  | .peekMruMut w => match c.items.head? with | some e => writeDecl e.1 true w | none => Decl.none
  | .removeLru => match c.items.getLast? with | some e => { wr := none, kills := fun x => decide (x = e.1) } | none => Decl.none
  | .peekOrPut k v => if (find k c.items).isSome then Decl.none else c.putDecl k v
  | .containsOrPut k v => if (find k c.items).isSome then Decl.none else c.putDecl k v
  | .peekMutOrPut k v w => if (find k c.items).isSome then writeDecl k true w else c.putDecl k v
  | .get _ | .getLru | .resize _ | .clone | .read => Decl.none

theorem owes_sub (d : Decl κ ν) (l l' : AL κ ν) (hd : d = Decl.none) (h : ∀ e ∈ l', e ∈ l) : Owes d l l' := by
  subst hd; exact owes_none l l' h

theorem put_step (c : RawLru κ ν) (k : κ) (v : ν) (h : c.Inv) :
    ∃ c', c.step (.put k v) = .ok c' ∧ c'.Inv ∧ c'.hasCb = c.hasCb ∧ Owes (c.putDecl k v) c.items c'.items := by
  obtain ⟨c', r, e, hp, hi, _, hcb⟩ := put_total_inv c k v h
  refine ⟨c', by simp only [RawLru.step, hp], hi, hcb, ?_⟩
  by_cases h0 : c.cap = 0
  · obtain ⟨hn, hq⟩ := put_zero c k v h h0
    rw [hq] at hp; cases hp
    rw [hn]; exact ⟨by simp [putDecl, h0], by simp, by simp⟩
  · obtain ⟨ev, _, hf, _⟩ := put_flow hp
    simpa [putDecl, keyDecl, h0] using hf.owes (wr := some (k, v)) h.nd (by simp)

theorem write_step {c c' : RawLru κ ν} {k : κ} {w : Option ν} {r : Bool} (h : c.Inv) (hr : (find k c.items).isSome = r)
    (hw : ∃ l, c' = { c with items := l } ∧ Flow k ((find k c.items).map fun old => (k, w.getD old)).toList c.items l []) :
    c'.Inv ∧ c'.hasCb = c.hasCb ∧ Owes (writeDecl k r w) c.items c'.items := by
  obtain ⟨l, rfl, hf⟩ := hw
  exact ⟨h.write hf, rfl, hr ▸ Flow.owes_write h.nd hf⟩

theorem remove_step (c : RawLru κ ν) (k : κ) (h : c.Inv) :
    (c.remove k).1.Inv ∧ (c.remove k).1.hasCb = c.hasCb ∧ Owes (keyDecl k none) c.items (c.remove k).1.items := by
  rw [remove_fst]
  exact ⟨h.items (nodup_erase k _ h.nd) (length_erase_le k _), rfl,
    (Flow.of_erase k c.items).owes (wr := none) h.nd (by simp)⟩

theorem step_orPut (c : RawLru κ ν) (k : κ) (v : ν) (w : Option ν) :
    c.step (.peekOrPut k v) = (if (find k c.items).isSome then .ok c else c.step (.put k v)) ∧
    c.step (.containsOrPut k v) = (if (find k c.items).isSome then .ok c else c.step (.put k v)) ∧
    c.step (.peekMutOrPut k v w) = (if (find k c.items).isSome then c.step (.peekMut k w) else c.step (.put k v)) := by
  simp only [RawLru.step, RawLru.peekOrPut, RawLru.containsOrPut, RawLru.peekMutOrPut, RawLru.peekMut]
  cases find k c.items with
  | none => cases c.put k v <;> exact ⟨rfl, rfl, rfl⟩
  | some cur => cases w <;> exact ⟨rfl, rfl, rfl⟩

/-- The positional operations go through the keyed ones, `*_or_put` through `put` or the peek. -/
theorem step_spec (c : RawLru κ ν) (o : RawOp κ ν) (h : c.Inv) :
    ∃ c', c.step o = .ok c' ∧ c'.Inv ∧ c'.hasCb = c.hasCb ∧ Owes (c.decl o) c.items c'.items := by
  have nd := h.nd
  have same : c.Inv ∧ c.hasCb = c.hasCb ∧ Owes Decl.none c.items c.items := ⟨h, rfl, owes_none _ _ fun _ he => he⟩
  have lru : ∀ {e}, c.items.getLast? = some e → (find e.1 c.items).isSome = true :=
    fun hl => by rw [find_last hl nd]; rfl
  have mru : ∀ {e}, c.items.head? = some e → (find e.1 c.items).isSome = true := fun hh => by
    obtain ⟨t, ht⟩ := List.head?_eq_some_iff.1 hh
    simp [ht, find]
  cases o with
  | put k v => exact put_step c k v h
  | get k => exact ⟨_, rfl, get_eq_getMut c k ▸ write_step h rfl (getMut_flow c k none)⟩
  | getMut k w => exact ⟨_, rfl, write_step h rfl (getMut_flow c k w)⟩
  | peekMut k w => exact ⟨_, rfl, write_step h rfl (peekMut_flow c k w)⟩
  | remove k => exact ⟨_, rfl, remove_step c k h⟩
  | purge =>
    exact ⟨{ c with items := [] }, by simp only [RawLru.step, purge_spec], h.items List.nodup_nil (Nat.zero_le _), rfl, owes_all _⟩
  | resize n =>
    obtain ⟨ev, e, hr⟩ := resize_fst c n h
    exact ⟨_, by simp only [RawLru.step, hr], h.take n, rfl, owes_none _ _ fun _ => List.mem_of_mem_take⟩
  | getLru =>
    refine ⟨_, rfl, ?_⟩
    rw [getLru_eq_getLruMut, getLruMut_eq c nd]
    cases c.items.getLast? with
    | none => exact same
    | some e => exact write_step h rfl (getMut_flow c e.1 none)
  | getLruMut w =>
    refine ⟨_, rfl, ?_⟩
    rw [getLruMut_eq c nd]; simp only [decl]
    cases hl : c.items.getLast? with
    | none => exact same
    | some e => exact write_step h (lru hl) (getMut_flow c e.1 w)
  | peekLruMut w =>
    refine ⟨_, rfl, ?_⟩
    rw [peekLruMut_eq c nd]; simp only [decl]
    cases hl : c.items.getLast? with
    | none => exact same
    | some e => exact write_step h (lru hl) (peekMut_flow c e.1 w)
  | removeLru =>
    refine ⟨_, rfl, ?_⟩
    rw [removeLru_eq c nd]; simp only [decl]
    cases c.items.getLast? with
    | none => exact same
    | some e => exact remove_step c e.1 h
  | getMruMut w | peekMruMut w =>
    refine ⟨_, rfl, ?_⟩
    simp only [RawLru.peekMruMut, getMruMut_eq, decl]
    cases hh : c.items.head? with
    | none => exact same
    | some e => exact write_step h (mru hh) (peekMut_flow c e.1 w)
  | peekOrPut k v =>
    rw [(step_orPut c k v none).1]; simp only [decl]
    split
    · exact ⟨c, rfl, same⟩
    · exact put_step c k v h
  | containsOrPut k v =>
    rw [(step_orPut c k v none).2.1]; simp only [decl]
    split
    · exact ⟨c, rfl, same⟩
    · exact put_step c k v h
  | peekMutOrPut k v w =>
    rw [(step_orPut c k v w).2.2]; simp only [decl]
    split
    · exact ⟨_, rfl, write_step h ‹_› (peekMut_flow c k w)⟩
    · exact put_step c k v h
  | clone => exact ⟨c, clone_eq c h, same⟩
  | read => exact ⟨c, rfl, same⟩

theorem step_inv (c : RawLru κ ν) (o : RawOp κ ν) (h : c.Inv) : ∃ c', c.step o = .ok c' ∧ c'.Inv :=
  let ⟨c', hs, hi, _⟩ := step_spec c o h; ⟨c', hs, hi⟩

end RawLru
end M
