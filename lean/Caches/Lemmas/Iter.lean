/- The cursor model of the iterators yields exactly what `IterSpec.popEnds` prescribes. -/
import Caches.Model.Iter
import Caches.Props.IterSpec
namespace M
variable {κ ν : Type}

namespace IterSpec
variable {α : Type}

@[simp] theorem popEnds_nil (l : List α) : popEnds l [] = [] := by cases l <;> rfl
@[simp] theorem popEnds_empty (b : Bool) (t : List Bool) : popEnds ([] : List α) (b :: t) = (none, 0) :: popEnds [] t := by
  cases b <;> rfl
@[simp] theorem popEnds_front (x : α) (r : List α) (t : List Bool) :
    popEnds (x :: r) (false :: t) = (some x, r.length) :: popEnds r t := rfl
@[simp] theorem popEnds_back (r : List α) (x : α) (t : List Bool) :
    popEnds (r ++ [x]) (true :: t) = (some x, r.length) :: popEnds r t := by
  simp [popEnds]

@[simp] theorem remaining_nil (l : List α) : remaining l [] = l := by cases l <;> rfl
@[simp] theorem remaining_empty (s : List Bool) : remaining ([] : List α) s = [] := by
  induction s with
  | nil => rfl
  | cons b t ih => cases b <;> simpa [remaining] using ih
@[simp] theorem remaining_front (x : α) (r : List α) (t : List Bool) : remaining (x :: r) (false :: t) = remaining r t := rfl
@[simp] theorem remaining_back (r : List α) (x : α) (t : List Bool) : remaining (r ++ [x]) (true :: t) = remaining r t := by
  simp [remaining]

theorem pop_induction {motive : List α → List Bool → Prop} (done : ∀ l, motive l [])
    (empty : ∀ b t, motive [] t → motive [] (b :: t))
    (front : ∀ x r t, motive r t → motive (x :: r) (false :: t))
    (back : ∀ r x t, motive r t → motive (r ++ [x]) (true :: t)) : ∀ l s, motive l s := by
  intro l s
  induction s generalizing l with
  | nil => exact done l
  | cons b t ih =>
    cases b with
    | false =>
      cases l with
      | nil => exact empty _ _ (ih _)
      | cons x r => exact front x r t (ih r)
    | true =>
      rcases List.eq_nil_or_concat l with rfl | ⟨r, x, rfl⟩
      · exact empty _ _ (ih _)
      · exact List.concat_eq_append ▸ back r x t (ih r)

end IterSpec
open IterSpec

/-- `+ 1`: position 0 is the head sentinel -/
theorem entryAt_mid (items pre : AL κ ν) (x : κ × ν) (post : AL κ ν) (pos : Nat) (site : String)
    (hi : items = pre ++ x :: post) (hpos : pos = pre.length + 1) : Iter.entryAt items pos site = .ok x := by
  subst hi hpos; simp [Iter.entryAt]

/-- generalised to cursors at the two ends of a window `mid` of the items, so that the induction goes through -/
theorem run_window (items pre mid post : AL κ ν) (s : List Bool) (it : Iter) (hi : items = pre ++ mid ++ post)
    (hl : it.len = mid.length) (hp : it.ptr = pre.length + 1) (he : it.endp = pre.length + mid.length) :
    Iter.run false items s it = .ok (popEnds mid s) := by
  induction mid, s using pop_induction generalizing pre post it with
  | done l => simp [Iter.run]
  | empty b t ih =>
    cases b <;> simp [Iter.run, Iter.next, Iter.nextBack, Iter.stepPtr, Iter.stepEnd, hl, ih pre post it hi hl hp he]
  | front x r t ih =>
    have hx := entryAt_mid items pre x (r ++ post) it.ptr "iter ptr" (by simp [hi]) hp
    have := ih (pre ++ [x]) post { it with len := r.length, ptr := it.ptr + 1 } (by simp [hi]) rfl (by simp [hp])
      (by simp [he]; omega)
    simp [Iter.run, Iter.next, Iter.stepPtr, hl, hx, this]
  | back r x t ih =>
    have hx := entryAt_mid items (pre ++ r) x post it.endp "iter end" (by simp [hi]) (by simp [he]; omega)
    have := ih pre (x :: post) { it with len := r.length, endp := it.endp - 1 } (by simp [hi]) rfl hp (by simp [he])
    simp [Iter.run, Iter.nextBack, Iter.stepEnd, hl, hx, this]

theorem run_lru_flip (items : AL κ ν) (s : List Bool) (it : Iter) :
    Iter.run true items s it = Iter.run false items (s.map (!·)) it := by
  induction s generalizing it with
  | nil => rfl
  | cons b t ih =>
    cases b <;> simp only [Iter.run, List.map_cons, Iter.next, Iter.nextBack, if_true, Bool.false_eq_true, if_false,
      Bool.not_false, Bool.not_true, ih]

theorem popEnds_reverse {α : Type} (l : List α) (s : List Bool) : popEnds l.reverse s = popEnds l (s.map (!·)) := by
  have key : ∀ (l : List α) s, popEnds l.reverse (s.map (!·)) = popEnds l s := by
    intro l s
    induction l, s using pop_induction with
    | done l => simp
    | empty b t ih => simpa using ih
    | front x r t ih => simp [ih]
    | back r x t ih => simp [ih]
  rw [← key l.reverse s, List.reverse_reverse]

theorem popEnds_perm {α : Type} (l : List α) (s : List Bool) : (yielded l s ++ remaining l s).Perm l := by
  induction l, s using pop_induction with
  | done l => simp [yielded]
  | empty b t ih => simpa [yielded] using ih
  | front x r t ih => simpa [yielded] using ih
  | back r x t ih =>
    simp only [yielded, popEnds_back, remaining_back, List.filterMap_cons, List.cons_append] at ih ⊢
    exact (ih.cons x).trans (List.perm_append_singleton x r).symm

theorem popEnds_hint {α : Type} (l : List α) (s : List Bool) :
    ∀ i, i < (popEnds l s).length → ((popEnds l s)[i]?.map (·.2)) = some (remaining l (s.take (i + 1))).length := by
  induction l, s using pop_induction with
  | done l => simp
  | empty b t ih => intro i hi; cases i <;> simp_all
  | front x r t ih => intro i hi; cases i <;> simp_all
  | back r x t ih => intro i hi; cases i <;> simp_all

end M
