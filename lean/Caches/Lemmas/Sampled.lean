/- `Sampled` (C20): `used = Σ costs` is an invariant of every operation. -/
import Caches.Model.Sampled
import Caches.Lemmas.Assoc
namespace M
namespace Sampled

def total : AL UInt64 Int → Int
  | [] => 0
  | (_, c) :: t => c + total t

structure Inv (s : Sampled) : Prop where
  used_eq : s.used = total s.costs
  nd : (keys s.costs).Nodup

theorem total_setVal (h : UInt64) (c prev : Int) (l : AL UInt64 Int) (hf : find h l = some prev) :
    total (setVal h c l) = total l - prev + c := by
  fun_induction setVal h c l <;> simp_all [total, find] <;> omega

theorem total_erase (h : UInt64) (c : Int) (l : AL UInt64 Int) (hf : find h l = some c) :
    total (erase h l) = total l - c := by
  fun_induction erase h l <;> simp_all [total, find] <;> omega

theorem inv_new (mc : Int) (n : Nat) : (Sampled.new mc n).Inv := ⟨rfl, by simp [Sampled.new]⟩

theorem inv_increment (s : Sampled) (h : UInt64) (c : Int) (hi : s.Inv) : (s.increment h c).Inv := by
  unfold Sampled.increment
  cases hf : find h s.costs with
  | some prev =>
    exact ⟨by simp only [total_setVal h c prev _ hf, hi.used_eq], by simp only [keys_setVal]; exact hi.nd⟩
  | none =>
    refine ⟨by simp only [total, hi.used_eq]; omega, ?_⟩
    simp only [keys_cons, List.nodup_cons]; exact ⟨(find_none_iff h _).1 hf, hi.nd⟩

theorem inv_update (s : Sampled) (h : UInt64) (c : Int) (hi : s.Inv) : (s.update h c).1.Inv := by
  unfold Sampled.update
  cases hf : find h s.costs with
  | none => exact hi
  | some prev =>
    exact ⟨by simp only [total_setVal h c prev _ hf, hi.used_eq]; omega, by simp only [keys_setVal]; exact hi.nd⟩

theorem inv_remove (s : Sampled) (h : UInt64) (hi : s.Inv) : (s.remove h).1.Inv := by
  unfold Sampled.remove
  cases hf : find h s.costs with
  | none => exact hi
  | some c => exact ⟨by simp only [total_erase h c _ hf, hi.used_eq], nodup_erase h _ hi.nd⟩

theorem inv_clear (s : Sampled) : s.clear.Inv := ⟨rfl, by simp [Sampled.clear]⟩
theorem inv_updateMaxCost (s : Sampled) (mc : Int) (hi : s.Inv) : (s.updateMaxCost mc).Inv := ⟨hi.used_eq, hi.nd⟩

end Sampled
end M
