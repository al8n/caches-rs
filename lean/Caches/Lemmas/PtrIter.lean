/- The iterator cursors at pointer level: `(len, ptr, end)` with `ptr`/`end` real addresses stepping through the heap by
   `.next` / `.prev`. Both the address cursors and the positions the `Iter` model reads are the pops of the chain
   (`IterSpec.popEnds`), hence each other's image (`C14.ptr_cursors_faithful_and_safe`). -/
import Caches.Lemmas.Iter
import Caches.Lemmas.Chain
namespace M
open M.Chain M.IterSpec

structure PIter where
  len : Nat
  ptr : Nat      -- address, advanced by `(*ptr).next`
  endp : Nat     -- address, advanced by `(*end).prev`
deriving Repr, DecidableEq

namespace PIter
/-- `iter()` & co.: `len = self.len()`, `ptr = (*head).next`, `end = (*tail).prev` -/
def start (h : Heap) (head tail n : Nat) : PIter := { len := n, ptr := (h head).next, endp := (h tail).prev }

def stepPtr (h : Heap) (it : PIter) : Option Nat × PIter :=
  if it.len = 0 then (none, it) else (some it.ptr, { it with len := it.len - 1, ptr := (h it.ptr).next })

def stepEnd (h : Heap) (it : PIter) : Option Nat × PIter :=
  if it.len = 0 then (none, it) else (some it.endp, { it with len := it.len - 1, endp := (h it.endp).prev })
end PIter

/-- a script of cursor steps (`false` = the `ptr` side, `true` = the `end` side) on addresses -/
def PIter.run (h : Heap) : List Bool → PIter → List (Option Nat)
  | [], _ => []
  | b :: t, p =>
    let r := if b then p.stepEnd h else p.stepPtr h
    r.1 :: PIter.run h t r.2

/-- the same script on positions: the index (into the entry list) each step reads, `none` once exhausted -/
def Iter.posRun : List Bool → Iter → List (Option Nat)
  | [], _ => []
  | b :: t, it =>
    if it.len = 0 then none :: Iter.posRun t it
    else if b then some (it.endp - 1) :: Iter.posRun t { it with len := it.len - 1, endp := it.endp - 1 }
    else some (it.ptr - 1) :: Iter.posRun t { it with len := it.len - 1, ptr := it.ptr + 1 }

/-- `run_window` on addresses; `hp` and `he` are in `head?` / `getLast?` form so that they still place the cursors when
    `mid` is empty -/
theorem ptr_window (h : Heap) (pre mid post : List Nat) (s : List Bool) (p : PIter)
    (hl : Linked h (pre ++ mid ++ post)) (hpre : pre ≠ []) (hpost : post ≠ []) (hn : p.len = mid.length)
    (hp : (mid ++ post).head? = some p.ptr) (he : (pre ++ mid).getLast? = some p.endp) :
    PIter.run h s p = (popEnds mid s).map (·.1) := by
  induction mid, s using pop_induction generalizing pre post p with
  | done l => simp [PIter.run]
  | empty b t ih =>
    cases b <;> simp [PIter.run, PIter.stepPtr, PIter.stepEnd, hn, ih pre post p hl hpre hpost hn hp he]
  | front x r t ih =>
    -- the `ptr` side yields `x` and moves to its successor, the head of `r ++ post`
    obtain rfl : x = p.ptr := by simpa using hp
    rw [List.append_assoc, List.cons_append] at hl
    have := ih (pre ++ [p.ptr]) post { p with len := r.length, ptr := (h p.ptr).next } (by simpa using hl) (by simp) hpost rfl
      (linked_next h pre _ _ hl (by simp [hpost])) (by simpa using he)
    simp [PIter.run, PIter.stepPtr, hn, this]
  | back r x t ih =>
    -- the `end` side yields `x` and moves to its predecessor, the last of `pre ++ r`
    obtain rfl : x = p.endp := by simpa using he
    rw [← List.append_assoc, List.append_assoc _ [_]] at hl
    have := ih pre (p.endp :: post) { p with len := r.length, endp := (h p.endp).prev } (by simpa using hl) hpre (by simp) rfl
      (by simpa using hp) (linked_prev h _ _ post hl (by simp [hpre]))
    simp [PIter.run, PIter.stepEnd, hn, this]

theorem ptr_run_start (h : Heap) (head tail : Nat) (l : List Nat) (hw : WF h head tail l) (s : List Bool) :
    PIter.run h s (PIter.start h head tail l.length) = (popEnds l s).map (·.1) :=
  ptr_window h [head] l [tail] s _ hw.2 (by simp) (by simp) rfl (linked_next h [] head _ hw.2 (by simp))
    (linked_prev h (head :: l) tail [] (by simpa using hw.2) (by simp))

theorem pos_window (l pre mid post : List Nat) (s : List Bool) (it : Iter) (hi : l = pre ++ mid ++ post)
    (hn : it.len = mid.length) (hp : it.ptr = pre.length + 1) (he : it.endp = pre.length + mid.length) :
    (Iter.posRun s it).map (fun o => o.bind fun i => l[i]?) = (popEnds mid s).map (·.1) := by
  induction mid, s using pop_induction generalizing pre post it with
  | done l => simp [Iter.posRun]
  | empty b t ih => simpa [Iter.posRun, hn] using ih pre post it hi hn hp he
  | front x r t ih =>
    have hx : l[it.ptr - 1]? = some x := by subst hi; simp [hp]
    have := ih (pre ++ [x]) post { it with len := r.length, ptr := it.ptr + 1 } (by simp [hi]) rfl (by simp [hp])
      (by simp [he]; omega)
    simp [Iter.posRun, hn, hx, this]
  | back r x t ih =>
    have hx : l[it.endp - 1]? = some x := by subst hi; simp [he]
    have := ih pre (x :: post) { it with len := r.length, endp := it.endp - 1 } (by simp [hi]) rfl hp (by simp [he])
    simp [Iter.posRun, hn, hx, this]

end M
